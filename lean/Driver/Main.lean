/-
  Line-protocol driver: one case per input line, one observation per output line.
  Evaluates the *same definitions* the theorems are about.
-/
import Driver.Sexp
import BorshModel.Spec
import BorshModel.SchemaOf
import BorshModel.Canon
import BorshModel.Io
import BorshModel.IoOps
import BorshModel.ArrayGuard
import BorshModel.ValidateSpec
import BorshModel.SchemaWalk
import BorshModel.Coherent
open Borsh Driver

def strict? : Sx → Option Bool
  | .atom "strict" => some true
  | .atom "lax" => some false
  | _ => none

def bytes? : Sx → Option Bytes
  | .atom a => parseHex a
  | _ => none

def showValErr : ValErr → String
  | .zstSequence d => "(zstSequence " ++ hexOf d ++ ")"
  | .tagTooWide d => "(tagTooWide " ++ hexOf d ++ ")"
  | .tagTooNarrow d => "(tagTooNarrow " ++ hexOf d ++ ")"
  | .tagNotPowerOfTwo d => "(tagNotPowerOfTwo " ++ hexOf d ++ ")"
  | .missing d => "(missing " ++ hexOf d ++ ")"
  | .emptyLengthRange d => "(emptyLengthRange " ++ hexOf d ++ ")"

def showValidate : Res ValErr Unit → String
  | .ok () => "ok"
  | .error e => showValErr e
  | .panic p => "panic:" ++ showPanic p

def showMax : MaxRes → String
  | .ok n => "(ok " ++ toString n ++ ")"
  | .error .overflow => "overflow"
  | .error .recursive => "recursive"
  | .error (.missing d) => "(missing " ++ hexOf d ++ ")"
  | .panic p => "panic:" ++ showPanic p

def showAnalyses (c : Container) : String :=
  "validate=" ++ showValidate c.validate ++ " max=" ++ showMax c.maxSerializedSize

/-- the specification's verdict on the implementation's `max_serialized_size` observation -/
def checkMaxAgainstSpec (c : Container) (implMax : String) : String :=
  match c.specMax with
  | .fin n =>
    if n < usizeLimit then
      (if implMax == "ok_" ++ toString n then "ok" else "SPEC: true maximum is " ++ toString n)
    else (if implMax == "overflow" then "ok" else "SPEC: true maximum " ++ toString n ++ " exceeds the address space")
  | .unbounded =>
    if implMax.startsWith "ok_" then "SPEC: unbounded (reachable cycle) but a bound was reported"
    else if implMax.startsWith "missing_" then
      "SPEC: a cycle is met before any missing definition, but a missing definition was reported"
    else "ok"
  | .missing d =>
    if implMax.startsWith "ok_" then "SPEC: definition " ++ hexOf d ++ " is missing but a bound was reported"
    else if implMax == "recursive" then
      "SPEC: definition " ++ hexOf d ++ " is missing and no cycle is met before it, but recursion was reported"
    else if implMax.startsWith "missing_" && implMax != "missing_" ++ hexOf d then
      "SPEC: the missing definition is " ++ hexOf d ++ ", another one was named"
    else "ok"

def nats? (xs : List Sx) : Option (List Nat) :=
  xs.mapM fun x => match x with
    | .atom a => a.toNat?
    | _ => none

def pairs? (xs : List Sx) : Option (List (Nat × Nat)) :=
  xs.mapM fun x => match x with
    | .list [.atom a, .atom b] => do some ((← a.toNat?), (← b.toNat?))
    | _ => none

def stop? : Sx → Option (Option (Nat × Stop))
  | .atom "nostop" => some none
  | .list [.atom "fail", .atom o, k, .atom id] => do
    some (some ((← o.toNat?), .fail (← kind? k) (← id.toNat?)))
  | .list [.atom "zero", .atom o] => do some (some ((← o.toNat?), .zero))
  | _ => none

def script? (cs st : Sx) : Option Script :=
  match cs with
  | .list (.atom "chunks" :: xs) => do some ⟨(← nats? xs), (← stop? st)⟩
  | _ => none

def intr? : Sx → Option (List (Nat × Nat))
  | .list (.atom "intr" :: xs) => pairs? xs
  | _ => none

def showUnit (o : Out Unit) : String :=
  match o with
  | .ok () => "ok"
  | .err e => showErr e
  | .panic p => "panic " ++ showPanic p

def ioOp? : Sx → Option IoOp
  | .list [.atom "read", .atom n] => n.toNat?.map .read
  | .list [.atom "rex", .atom n] => n.toNat?.map .readExact
  | .list [.atom "w", .atom b] => (parseHex b).map .write
  | .list [.atom "wa", .atom b] => (parseHex b).map .writeAll
  | .atom "fl" => some .flush
  | _ => none

def ioOps? : Sx → Option (List IoOp)
  | .list (.atom "ops" :: xs) => xs.mapM ioOp?
  | _ => none

def showIoObs : IoObs → String
  | .got bs => "(got " ++ hexOf bs ++ ")"
  | .count n => "(n " ++ toString n ++ ")"
  | .unit => "unit"
  | .failed e => "(" ++ showErr e ++ ")"

def showObsList (xs : List IoObs) : String := "(" ++ " ".intercalate (xs.map showIoObs) ++ ")"

def valErrOfToken (tok : String) : Option ValErr :=
  match tok.splitOn "_" with
  | [k, h] =>
    match parseHex h with
    | some d =>
      if k == "zstSequence" then some (.zstSequence d)
      else if k == "tagTooWide" then some (.tagTooWide d)
      else if k == "tagTooNarrow" then some (.tagTooNarrow d)
      else if k == "tagNotPowerOfTwo" then some (.tagNotPowerOfTwo d)
      else if k == "missing" then some (.missing d)
      else if k == "emptyLengthRange" then some (.emptyLengthRange d)
      else none
    | none => none
  | _ => none

/-- the specification's verdict on the implementation's `validate` observation -/
def checkValidateAgainstSpec (c : Container) (tok : String) : String :=
  if tok == "panic" then "SPEC: validate panicked"
  else if tok == "ok" then
    (if wellFormedDec c then "ok"
     else "SPEC: ill-formed container accepted; defects: " ++
       toString (((reachable c).map fun d => (defectsAt c (zeroSet c) d).map showValErr).flatten.take 3))
  else match valErrOfToken tok with
    | some e =>
      if wellFormedDec c then "SPEC: well-formed container rejected"
      else if defectReal c e then "ok"
      else "SPEC: the reported error names no real defect"
    | none => "bad-case token"

open Derive in
def fieldAttr? : Sx → Option FieldAttr
  | .atom "skip" => some .skip | .atom "ser_with" => some .serializeWith
  | .atom "de_with" => some .deserializeWith | .atom "bound" => some .bound
  | .atom "schema_params" => some .schemaParams | .atom "schema_funcs" => some .schemaFuncs
  | .atom "unknown" => some .unknown
  | _ => none

open Derive in
def fieldDef? : Sx → Option FieldDef
  | .list (.atom "f" :: attrs) => do
    let as ← attrs.mapM fun a => match a with
      | .list ks => ks.mapM fieldAttr?
      | _ => none
    some ⟨as⟩
  | _ => none

open Derive in
def itemAttr? : Sx → Option ItemAttr
  | .list [.atom "use", .atom "true"] => some (.useDiscriminant (some true))
  | .list [.atom "use", .atom "false"] => some (.useDiscriminant (some false))
  | .list [.atom "use", .atom "other"] => some (.useDiscriminant none)
  | .atom "init" => some .init | .atom "crate" => some .crate_ | .atom "unknown" => some .unknown
  | _ => none

open Derive in
def itemAttrs? : Sx → Option (List (List ItemAttr))
  | .list (.atom "attrs" :: as) => as.mapM fun a => match a with
    | .list ks => ks.mapM itemAttr?
    | _ => none
  | _ => none

open Derive in
def itemDef? : Sx → Option ItemDef
  | .list [.atom "item", .atom "union"] => some .union_
  | .list [.atom "item", .atom "struct", attrs, .list (.atom "fields" :: fs)] => do
    some (.struct_ (← itemAttrs? attrs) (← fs.mapM fieldDef?))
  | .list [.atom "item", .atom "enum", attrs, .list (.atom "variants" :: vs)] => do
    let vs ← vs.mapM fun v => match v with
      | .list (.atom "v" :: .atom d :: fs) => do
        let discr ← (if d == "_" then some none else d.toInt?.map some)
        some (VariantDef.mk discr (← fs.mapM fieldDef?))
      | _ => none
    some (.enum_ (← itemAttrs? attrs) vs)
  | _ => none

open Derive in
def showReject : Reject → String
  | .union_ => "union" | .multipleBorshAttrs => "multipleBorshAttrs" | .unknownItemKey => "unknownItemKey"
  | .unknownFieldKey => "unknownFieldKey" | .useDiscriminantOnStruct => "useDiscriminantOnStruct"
  | .useDiscriminantNotBool => "useDiscriminantNotBool"
  | .explicitDiscriminantWithoutSetting => "explicitDiscriminantWithoutSetting"
  | .tooManyVariants => "tooManyVariants" | .discriminantOutOfRange => "discriminantOutOfRange"
  | .skipConflict => "skipConflict"

def runCase (xs : List Sx) : String :=
  match xs with
  | [.atom "enc", t, v] =>
    match ty? t, val? v with
    | some t, some v =>
      if HasTy t v then showOut hexOf (toVec t v) else "bad-case ill-typed"
    | _, _ => "bad-case parse"
  | [.atom "spec", t, v] =>
    match ty? t, val? v with
    | some t, some v =>
      if HasTy t v then
        match Spec.enc t v with
        | .ok bs => "ok " ++ hexOf bs
        | .error .nan => "err invalidData nanSer"
        | .error .tooLong => "err invalidData simple"
        | .error .zst => "err invalidData zst"
        | .error .illTyped => "bad-case spec-ill-typed"
      else "bad-case ill-typed"
    | _, _ => "bad-case parse"
  | [.atom "dec", st, t, b] =>
    match strict? st, ty? t, bytes? b with
    | some st, some t, some bs =>
      showOut (fun r => showVal r.1 ++ " rest=" ++ toString r.2.length) (deserialize st t bs)
    | _, _, _ => "bad-case parse"
  | [.atom "fs", st, t, b] =>
    match strict? st, ty? t, bytes? b with
    | some st, some t, some bs => showOut showVal (fromSlice st t bs)
    | _, _, _ => "bad-case parse"
  | [.atom "rt", st, t, v] =>
    match strict? st, ty? t, val? v with
    | some st, some t, some v =>
      if !HasTy t v then "bad-case ill-typed" else
      match toVec t v with
      | .ok bs => showOut showVal (fromSlice st t bs)
      | .err e => "enc" ++ showErr e
      | .panic p => "encpanic " ++ showPanic p
    | _, _, _ => "bad-case parse"
  | [.atom "stream", st, .list ts, b] =>
    match strict? st, ts.mapM ty?, bytes? b with
    | some st, some ts, some bs => showOut
        (fun r => "(" ++ " ".intercalate (r.1.map showVal) ++ ") rest=" ++ toString r.2.length)
        (deserializeMany st ts bs)
    | _, _, _ => "bad-case parse"
  | [.atom "decR", st, t, b, cs, it, stp, .atom entry] =>
    match strict? st, ty? t, bytes? b, script? cs stp, intr? it with
    | some st, some t, some bs, some sc, some intr =>
      let s0 : RState := ⟨bs, 0, intr⟩
      let r := if entry == "dr" then deserializeReader (Rd.script sc) st t s0
               else fromReader (Rd.script sc) st t s0
      showOut (fun r => showVal r.1 ++ " pulled=" ++ toString r.2.pos) r
    | _, _, _, _, _ => "bad-case parse"
  | [.atom "encW", t, v, cs, it, stp] =>
    match ty? t, val? v, script? cs stp, intr? it with
    | some t, some v, some sc, some intr =>
      if !HasTy t v then "bad-case ill-typed" else
      let r := toWriterScript sc intr t v
      showUnit r.2 ++ " delivered=" ++ hexOf r.1.delivered
    | _, _, _, _ => "bad-case parse"
  | [.atom "encF", t, v, .atom cap] =>
    match ty? t, val? v, cap.toNat? with
    | some t, some v, some cap =>
      if !HasTy t v then "bad-case ill-typed" else
      let r := toFixedBuffer cap t v
      showUnit r.2 ++ " written=" ++ hexOf r.1.1 ++ " room=" ++ toString r.1.2
    | _, _, _ => "bad-case parse"
  | [.atom "olen", t, v] =>
    match ty? t, val? v with
    | some t, some v =>
      if !HasTy t v then "bad-case ill-typed" else showOut toString (objectLength t v)
    | _, _ => "bad-case parse"
  | [.atom "ioR", .atom io, b, ops] =>
    match bytes? b, ioOps? ops with
    | some bs, some ops =>
      let r := if io == "std" then Std.readerOps ops bs else NoStd.readerOps ops bs
      let failed := match r.1.getLast? with
        | some (.failed _) => true
        | _ => false
      -- the position after a failed read_exact is unspecified by std::io
      showObsList r.1 ++ " rest=" ++ (if failed then "*" else hexOf r.2)
    | _, _ => "bad-case parse"
  | [.atom "ioW", .atom io, .atom cap, ops] =>
    match cap.toNat?, ioOps? ops with
    | some cap, some ops =>
      let r := if io == "std" then Std.sliceWriterOps ops ([], cap) else NoStd.sliceWriterOps ops ([], cap)
      showObsList r.1 ++ " written=" ++ hexOf r.2.1 ++ " room=" ++ toString r.2.2
    | _, _ => "bad-case parse"
  | [.atom "ioV", .atom io, ops] =>
    match ioOps? ops with
    | some ops =>
      let r := if io == "std" then Std.vecWriterOps ops [] else NoStd.vecWriterOps ops []
      showObsList r.1 ++ " written=" ++ hexOf r.2
    | none => "bad-case parse"
  | [.atom "guard", .atom n, .atom k, .atom "errdrop", .atom j] =>
    -- error return at position k while the destructor of element j unwinds during the cleanup
    match n.toNat?, k.toNat?, j.toNat? with
    | some n, some k, some j =>
      let r := arrayRunDropPanic n (fun i => if i == k then .err else .ok) j
      let evs := r.1.map fun e => match e with
        | .construct i => "c" ++ toString i
        | .dropElem i => "d" ++ toString i
        | .handOver i => "h" ++ toString i
        | .touchUninit i => "U" ++ toString i
      let oc := match r.2 with
        | .returned => "returned"
        | .failed => "failed"
        | .unwound => "unwound"
      oc ++ " (" ++ " ".intercalate evs ++ ")"
    | _, _, _ => "bad-case parse"
  | [.atom "guard", .atom n, .atom k, .atom mode] =>
    match n.toNat? with
    | some n =>
      let plan : Nat → ElemResult := fun i =>
        match k.toNat? with
        | some k => if i == k then (if mode == "panic" then .panic else .err) else .ok
        | none => .ok
      let r := arrayRun n plan
      let evs := r.1.map fun e => match e with
        | .construct i => "c" ++ toString i
        | .dropElem i => "d" ++ toString i
        | .handOver i => "h" ++ toString i
        | .touchUninit i => "U" ++ toString i
      let oc := match r.2 with
        | .returned => "returned"
        | .failed => "failed"
        | .unwound => "unwound"
      oc ++ " (" ++ " ".intercalate evs ++ ")"
    | none => "bad-case parse"
  | [.atom "derive", it] =>
    match itemDef? it with
    | some d =>
      match Derive.accepts d with
      | none => "accept"
      | some r => "reject " ++ showReject r
    | none => "bad-case parse"
  | [.atom "cont", st, b] =>
    match strict? st, bytes? b with
    | some st, some bs =>
      match fromSlice st containerTy bs with
      | .ok v =>
        match containerOfVal v with
        | some c => "ok " ++ showAnalyses c
        | none => "bad-case container-shape"
      | .err e => showErr e
      | .panic p => "panic " ++ showPanic p
    | _, _ => "bad-case parse"
  | [.atom "contchk", st, b, .atom implMax] =>
    match strict? st, bytes? b with
    | some st, some bs =>
      match fromSlice st containerTy bs with
      | .ok v =>
        match containerOfVal v with
        | some c => checkMaxAgainstSpec c implMax
        | none => "bad-case container-shape"
      | _ => "ok"
    | _, _ => "bad-case parse"
  | [.atom "withschema", st, t, u, v] =>
    match strict? st, ty? t, ty? u, val? v with
    | some st, some t, some u, some v =>
      if !HasTy t v then "bad-case ill-typed" else
      match tryToVecWithSchema t v with
      | .ok bs => showOut showVal (tryFromSliceWithSchema st u bs)
      | .err e => "enc" ++ showErr e
      | .panic p => "encpanic " ++ showPanic p
    | _, _, _, _ => "bad-case parse"
  | [.atom "wsverdict", t, u, .atom tok] =>
    -- the specification's verdict on what the implementation did with a value written at `t` and read
    -- at `u`: accepted although the two types' schemas differ is a violation of the property itself
    match ty? t, ty? u with
    | some t, some u =>
      match schemaOf t, schemaOf u with
      | .ok ct, .ok cu =>
        if ct == cu then "ok"
        else if tok == "accepted" then
          "SPEC: the schemas of the two types differ (" ++ hexOf ct.decl ++ " / " ++ hexOf cu.decl ++ ") but the value was accepted"
        else "ok"
      | _, _ => "ok"
    | _, _ => "bad-case parse"
  | [.atom "wsraw", st, u, b] =>
    match strict? st, ty? u, bytes? b with
    | some st, some u, some bs => showOut showVal (tryFromSliceWithSchema st u bs)
    | _, _, _ => "bad-case parse"
  | [.atom "contval", st, b, .atom tok] =>
    match strict? st, bytes? b with
    | some st, some bs =>
      match fromSlice st containerTy bs with
      | .ok v =>
        match containerOfVal v with
        | some c => checkValidateAgainstSpec c tok
        | none => "bad-case container-shape"
      | _ => "ok"
    | _, _ => "bad-case parse"
  | [.atom "contread", b] =>
    -- can every definition of the container be read at all (hypothesis of the tightness theorem)
    match bytes? b with
    | some bs =>
      match fromSlice false containerTy bs with
      | .ok v =>
        match containerOfVal v with
        | some c => "readable=" ++ toString c.readable
        | none => "bad-case container-shape"
      | _ => "bad-case container-bytes"
    | none => "bad-case parse"
  | [.atom "sdec", cb, eb] =>
    -- the schema-only reader of the specification (`sdec`) on a container and an encoding
    match bytes? cb, bytes? eb with
    | some cbs, some ebs =>
      match fromSlice false containerTy cbs with
      | .ok v =>
        match containerOfVal v with
        | some c =>
          match sdec c 66 c.decl ebs with
          | some rest => "ok rest=" ++ toString rest.length
          | none => "fail"
        | none => "bad-case container-shape"
      | _ => "bad-case container-bytes"
    | _, _ => "bad-case parse"
  | [.atom "hyp08", t] =>
    -- the hypotheses of theorem `C08_describes` at this type: name coherence, a shape the schema
    -- impls exist for, well-formedness
    match ty? t with
    | some t =>
      if coherentB t && shapeOk t && WfTy t then "ok"
      else "hypothesis-fails coherent=" ++ toString (coherentB t) ++ " shape=" ++ toString (shapeOk t) ++
        " wf=" ++ toString (WfTy t)
    | none => "bad-case parse"
  | [.atom "schema", t] =>
    match ty? t with
    | some t =>
      match schemaOf t with
      | .ok c =>
        match toVec containerTy (containerToVal c) with
        | .ok bs => "ok cont=" ++ hexOf bs ++ " " ++ showAnalyses c
        | _ => "bad-case container-encode"
      | .error _ => "bad-case"
      | .panic p => "panic " ++ showPanic p
    | none => "bad-case parse"
  | _ => "bad-case op"

/-! ### recursive items: `(mu CAP Name body)` with `(ref Name)` inside, unfolded at the S-expression
level to the depth the case needs.  The universe of the model is recursion-free; an unfolding is an
ordinary member of it, so every theorem applies to it.  The bottom of the unfolding is an enum without
variants (it has no values and rejects every input); the depth is chosen so that it is never reached,
and the result is required to be the same one level deeper. -/

partial def substRef (name : String) (rep : Sx) : Sx → Sx
  | .list [.atom "ref", .atom n] => if n == name then rep else .list [.atom "ref", .atom n]
  | .list (.atom "mu" :: cap :: .atom n :: rest) =>
    if n == name then .list (.atom "mu" :: cap :: .atom n :: rest)
    else .list (.atom "mu" :: cap :: .atom n :: rest.map (substRef name rep))
  | .list xs => .list (xs.map (substRef name rep))
  | a => a

partial def expandMu (d : Nat) : Sx → Sx
  | .list [.atom "mu", .atom cap, .atom n, body] =>
    let d' := min d (cap.toNat?.getD 0)
    let body' := expandMu d body
    let bottom := Sx.list [.atom "sum", .list [.atom "derivedsrc", .atom n, .atom "0", .atom "n"]]
    (List.range d').foldl (fun acc _ => substRef n acc body') bottom
  | .list xs => .list (xs.map (expandMu d))
  | a => a

partial def sxDepth : Sx → Nat
  | .atom _ => 0
  | .list xs => 1 + (xs.map sxDepth).foldl max 0

partial def sxMaxHex : Sx → Nat
  | .atom a => if a.startsWith "x" then (a.length - 1) / 2 else 0
  | .list xs => (xs.map sxMaxHex).foldl max 0

partial def sxHasMu : Sx → Bool
  | .list (.atom "mu" :: _) => true
  | .list xs => xs.any sxHasMu
  | .atom _ => false

def runLine (xs : List Sx) : String :=
  if xs.any sxHasMu then
    let d := max ((xs.map sxMaxHex).foldl max 0 + 2) ((xs.map sxDepth).foldl max 0)
    let r1 := runCase (xs.map (expandMu d))
    let r2 := runCase (xs.map (expandMu (d + 1)))
    if r1 == r2 then r1 else "unfold-unstable " ++ r1 ++ " // " ++ r2
  else runCase xs

partial def loop (h : IO.FS.Stream) (out : IO.FS.Stream) : IO Unit := do
  let line ← h.getLine
  if line.isEmpty then return ()
  let r := match parseLine line with
    | some xs => runLine xs
    | none => "bad-case sexp"
  out.putStrLn r
  loop h out

def main : IO Unit := do
  let stdin ← IO.getStdin
  let stdout ← IO.getStdout
  loop stdin stdout
