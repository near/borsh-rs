import BorshModel.ArrayGuard
import BorshModel.Basic
import BorshModel.Bytes
import BorshModel.Canon
import BorshModel.Cost
import BorshModel.De
import BorshModel.Derive
import BorshModel.Io
import BorshModel.IoOps
import BorshModel.Layout
import BorshModel.Ord
import BorshModel.Schema
import BorshModel.SchemaCodec
import BorshModel.SchemaOf
import BorshModel.SchemaWalk
import BorshModel.Ser
import BorshModel.Spec
import BorshModel.Ty
import BorshModel.Typing
import BorshModel.ValidateSpec
import BorshModel.Lemmas.CanonId
import BorshModel.Lemmas.ContainerCodec
import BorshModel.Lemmas.DeRel
import BorshModel.Lemmas.Reads
import BorshModel.Lemmas.Describes
import BorshModel.Lemmas.Ext
import BorshModel.Lemmas.Induct
import BorshModel.Lemmas.MaxSize
import BorshModel.Lemmas.OrdLaws
import BorshModel.Lemmas.Reverse
import BorshModel.Lemmas.Roundtrip
import BorshModel.Lemmas.Safe
import BorshModel.Lemmas.DefMap
import BorshModel.Coherent
import BorshModel.Lemmas.TyBeq
import BorshModel.Lemmas.AddDefs
import BorshModel.Lemmas.ScriptRead
import BorshModel.Lemmas.ScriptWrite
import BorshModel.Lemmas.Sim
import BorshModel.Lemmas.Slice
import BorshModel.Lemmas.Sort
import BorshModel.Lemmas.SortLaws
import BorshModel.Lemmas.SpecRefine
import BorshModel.Lemmas.SliceRd
import BorshModel.Lemmas.IntCodec
import BorshModel.Lemmas.Wire
import BorshModel.Lemmas.Clauses
import BorshModel.Lemmas.Variant
import BorshModel.Lemmas.Nodes
import BorshModel.Lemmas.Res
import BorshModel.Lemmas.Strict
import BorshModel.Lemmas.Totality
import BorshModel.Lemmas.Trace
import BorshModel.Lemmas.ValidateIff
import BorshModel.Lemmas.ValidateSound
import BorshModel.Lemmas.WireZero
import BorshModel.Lemmas.ZeroSizeSpec
import BorshModel.Theorems.C01
import BorshModel.Theorems.C02
import BorshModel.Theorems.C03
import BorshModel.Theorems.C04
import BorshModel.Theorems.C05
import BorshModel.Theorems.C06
import BorshModel.Theorems.C07
import BorshModel.Theorems.C08
import BorshModel.Theorems.C09
import BorshModel.Theorems.C10
import BorshModel.Theorems.C11
import BorshModel.Theorems.C12
import BorshModel.Theorems.C13
import BorshModel.Theorems.C14
import BorshModel.Theorems.C15
import BorshModel.Theorems.C16
import BorshModel.Theorems.C17
import BorshModel.Theorems.C18
import BorshModel.Lemmas.SimB
import BorshModel.Lemmas.Logical
import BorshModel.Lemmas.MaxSound
import BorshModel.Lemmas.MaxTight
import BorshModel.Lemmas.Fuel
import BorshModel.Lemmas.Walk
import BorshModel.Lemmas.Bnd
import BorshModel.Lemmas.Entry
import BorshModel.Lemmas.AnyWriter
import BorshModel.Lemmas.Work
