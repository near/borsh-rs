/-
  Basic vocabulary of the borsh-rs model: bytes, names, error kinds / message
  classes, and the three-way outcome type `Out` (ok / err / panic) with an explicit
  bind.  Nothing here imports anything outside core, so the driver links as an
  executable.
-/
namespace Borsh

abbrev Bytes := List UInt8
/-- identifiers and declarations are UTF-8 bytes: `String` order in Rust is bytewise. -/
abbrev Name := List UInt8

/-- `io::ErrorKind`s that borsh itself constructs or that scripts inject. -/
inductive Kind
  | invalidData | unexpectedEof | interrupted | writeZero | outOfMemory | other
  | user (n : Nat)
  deriving DecidableEq, Repr, Inhabited

/-- who owns a tag byte: only the text of the "bad tag" message differs. -/
inductive TagK
  | bool | option | result | ipAddr | sockAddr | derived
  deriving DecidableEq, Repr, Inhabited

/-- message *classes* of the errors borsh produces (texts are compared by class). -/
inductive Msg
  | unexpectedLength      -- "Unexpected length of input"
  | notAllBytesRead       -- "Not all bytes read"
  | zst                   -- ERROR_ZST_FORBIDDEN
  | keyOrder              -- "keys were not serialized in ascending order"
  | nanSer | nanDe        -- the two NaN refusals
  | zeroNonZero           -- "Expected a non-zero value"
  | badTag (k : TagK) (b : UInt8)
  | utf8 | ascii
  | simple                -- `Error::from(ErrorKind)`: Display is the kind's own text
  | refCell               -- "already mutably borrowed"
  | eofFill               -- "failed to fill whole buffer"
  | writeZeroMsg          -- "failed to write whole buffer"
  | schemaMismatch        -- "Borsh schema does not match"
  | user (id : Nat)       -- a payload injected by a scripted reader/writer
  deriving DecidableEq, Repr, Inhabited

structure Err where
  kind : Kind
  msg  : Msg
  deriving DecidableEq, Repr, Inhabited

/-- partial operations in the Rust sources that are reachable from data. -/
inductive PanicSite
  | divByZero | countOverflow | sliceIndex | unwrapNone | assertRedefinition
  | unreachable | addOverflow | fuel
  deriving DecidableEq, Repr, Inhabited

inductive Out (α : Type) where
  | ok (a : α)
  | err (e : Err)
  | panic (p : PanicSite)
  deriving Repr, Inhabited

namespace Out

@[inline] def bind {α β : Type} (x : Out α) (f : α → Out β) : Out β :=
  match x with
  | .ok a => f a
  | .err e => .err e
  | .panic p => .panic p

@[inline] def map {α β : Type} (f : α → β) (x : Out α) : Out β :=
  match x with
  | .ok a => .ok (f a)
  | .err e => .err e
  | .panic p => .panic p

@[inline] def mapErr {α : Type} (f : Err → Err) (x : Out α) : Out α :=
  match x with
  | .ok a => .ok a
  | .err e => .err (f e)
  | .panic p => .panic p

def isOk {α : Type} : Out α → Bool
  | .ok _ => true
  | _ => false

def isPanic {α : Type} : Out α → Bool
  | .panic _ => true
  | _ => false

instance : Monad Out where
  pure := .ok
  bind := Out.bind

@[simp] theorem bind_ok {α β : Type} (a : α) (f : α → Out β) : (Out.ok a).bind f = f a := rfl
@[simp] theorem bind_err {α β : Type} (e : Err) (f : α → Out β) : (Out.err e : Out α).bind f = .err e := rfl
@[simp] theorem bind_panic {α β : Type} (p : PanicSite) (f : α → Out β) :
    (Out.panic p : Out α).bind f = .panic p := rfl
@[simp] theorem map_ok {α β : Type} (a : α) (f : α → β) : (Out.ok a).map f = .ok (f a) := rfl
@[simp] theorem map_err {α β : Type} (e : Err) (f : α → β) : (Out.err e : Out α).map f = .err e := rfl
@[simp] theorem map_panic {α β : Type} (p : PanicSite) (f : α → β) :
    (Out.panic p : Out α).map f = .panic p := rfl
@[simp] theorem mapErr_ok {α : Type} (a : α) (f : Err → Err) : (Out.ok a).mapErr f = .ok a := rfl
@[simp] theorem mapErr_err {α : Type} (e : Err) (f : Err → Err) :
    (Out.err e : Out α).mapErr f = .err (f e) := rfl
@[simp] theorem mapErr_panic {α : Type} (p : PanicSite) (f : Err → Err) :
    (Out.panic p : Out α).mapErr f = .panic p := rfl

theorem map_bind {α β γ : Type} (x : Out α) (f : α → Out β) (g : β → γ) :
    (x.bind f).map g = x.bind fun a => (f a).map g := by
  cases x <;> rfl

theorem bind_eq_ok_iff {α β : Type} {x : Out α} {f : α → Out β} {b : β} :
    x.bind f = .ok b ↔ ∃ a, x = .ok a ∧ f a = .ok b := by
  cases x <;> simp [bind]

theorem map_eq_ok_iff {α β : Type} {x : Out α} {f : α → β} {b : β} :
    x.map f = .ok b ↔ ∃ a, x = .ok a ∧ f a = b := by
  cases x <;> simp [map]

theorem mapErr_eq_ok_iff {α : Type} {x : Out α} {f : Err → Err} {a : α} :
    x.mapErr f = .ok a ↔ x = .ok a := by
  cases x <;> simp [mapErr]

end Out

/-! the errors borsh constructs, by name -/

def eUnexpectedLength : Err := ⟨.invalidData, .unexpectedLength⟩
def eNotAllBytesRead  : Err := ⟨.invalidData, .notAllBytesRead⟩
def eZst              : Err := ⟨.invalidData, .zst⟩
def eKeyOrder         : Err := ⟨.invalidData, .keyOrder⟩
def eNanSer           : Err := ⟨.invalidData, .nanSer⟩
def eNanDe            : Err := ⟨.invalidData, .nanDe⟩
def eZero             : Err := ⟨.invalidData, .zeroNonZero⟩
def eBadTag (k : TagK) (b : UInt8) : Err := ⟨.invalidData, .badTag k b⟩
def eUtf8             : Err := ⟨.invalidData, .utf8⟩
def eAscii            : Err := ⟨.invalidData, .ascii⟩
/-- `ErrorKind::InvalidData.into()` (length does not fit `u32`) -/
def eLenOverflow      : Err := ⟨.invalidData, .simple⟩
/-- what `read_exact` reports when the stream ends early -/
def eEof              : Err := ⟨.unexpectedEof, .eofFill⟩
def eWriteZero        : Err := ⟨.writeZero, .writeZeroMsg⟩

/-- `unexpected_eof_to_unexpected_length_of_input` (de/mod.rs:138) -/
def mapEof (e : Err) : Err :=
  if e.kind = .unexpectedEof then eUnexpectedLength else e

end Borsh
