/-
  The io facade on slices and vectors, operation by operation: `impl Read for &[u8]`,
  `impl Write for &mut [u8]`, `impl Write for Vec<u8>` and the `&mut R` / `&mut W` forwarding,
  once as std::io documents them (`Std`) and once as borsh/src/nostd_io.rs implements them
  (`NoStd`).  Outcomes are compared wherever std::io specifies them; after a failed
  `read_exact` std leaves the position unspecified, so a run ends there.
-/
import BorshModel.Basic
namespace Borsh

inductive IoOp
  | read (n : Nat)          -- `read(&mut [0; n])`
  | readExact (n : Nat)     -- `read_exact(&mut [0; n])`
  | write (bs : Bytes)      -- `write(bs)`
  | writeAll (bs : Bytes)   -- `write_all(bs)`
  | flush
  deriving Repr, DecidableEq, Inhabited

/-- what one operation returned -/
inductive IoObs
  | got (bs : Bytes)        -- bytes read
  | count (n : Nat)         -- bytes written by `write`
  | unit                    -- `Ok(())`
  | failed (e : Err)
  deriving Repr, DecidableEq, Inhabited

namespace Std
/-- `impl Read for &[u8]` as documented: `read` copies `min(buf.len(), self.len())` bytes and
advances; `read_exact` fails with `UnexpectedEof` when the slice is shorter than the buffer -/
def readerOps : List IoOp → Bytes → List IoObs × Bytes
  | [], s => ([], s)
  | .read n :: ops, s =>
    let r := readerOps ops (s.drop n)
    (.got (s.take n) :: r.1, r.2)
  | .readExact n :: ops, s =>
    if n ≤ s.length then
      let r := readerOps ops (s.drop n)
      (.got (s.take n) :: r.1, r.2)
    else ([.failed eEof], s)
  | _ :: ops, s => readerOps ops s

/-- `impl Write for &mut [u8]`: `write` copies what fits; `write_all` writes what fits and
reports `WriteZero` if that was not everything -/
def sliceWriterOps : List IoOp → Bytes × Nat → List IoObs × (Bytes × Nat)
  | [], st => ([], st)
  | .write bs :: ops, (w, room) =>
    let n := min bs.length room
    let r := sliceWriterOps ops (w ++ bs.take n, room - n)
    (.count n :: r.1, r.2)
  | .writeAll bs :: ops, (w, room) =>
    let n := min bs.length room
    let r := sliceWriterOps ops (w ++ bs.take n, room - n)
    ((if n == bs.length then .unit else .failed eWriteZero) :: r.1, r.2)
  | .flush :: ops, st =>
    let r := sliceWriterOps ops st
    (.unit :: r.1, r.2)
  | _ :: ops, st => sliceWriterOps ops st

/-- `impl Write for Vec<u8>`: always appends everything -/
def vecWriterOps : List IoOp → Bytes → List IoObs × Bytes
  | [], w => ([], w)
  | .write bs :: ops, w => let r := vecWriterOps ops (w ++ bs); (.count bs.length :: r.1, r.2)
  | .writeAll bs :: ops, w => let r := vecWriterOps ops (w ++ bs); (.unit :: r.1, r.2)
  | .flush :: ops, w => let r := vecWriterOps ops w; (.unit :: r.1, r.2)
  | _ :: ops, w => vecWriterOps ops w
end Std

namespace NoStd
/-- nostd_io.rs:978-1019 -/
def readerOps : List IoOp → Bytes → List IoObs × Bytes
  | [], s => ([], s)
  | .read n :: ops, s =>
    let amt := min n s.length
    let r := readerOps ops (s.drop amt)
    (.got (s.take amt) :: r.1, r.2)
  | .readExact n :: ops, s =>
    if n > s.length then ([.failed ⟨.unexpectedEof, .eofFill⟩], s)
    else
      let r := readerOps ops (s.drop n)
      (.got (s.take n) :: r.1, r.2)
  | _ :: ops, s => readerOps ops s

/-- nostd_io.rs:648-674 -/
def sliceWriterOps : List IoOp → Bytes × Nat → List IoObs × (Bytes × Nat)
  | [], st => ([], st)
  | .write bs :: ops, (w, room) =>
    let amt := min bs.length room
    let r := sliceWriterOps ops (w ++ bs.take amt, room - amt)
    (.count amt :: r.1, r.2)
  | .writeAll bs :: ops, (w, room) =>
    let amt := min bs.length room
    let r := sliceWriterOps ops (w ++ bs.take amt, room - amt)
    ((if amt == bs.length then .unit else .failed ⟨.writeZero, .writeZeroMsg⟩) :: r.1, r.2)
  | .flush :: ops, st =>
    let r := sliceWriterOps ops st
    (.unit :: r.1, r.2)
  | _ :: ops, st => sliceWriterOps ops st

/-- nostd_io.rs:678-695 -/
def vecWriterOps : List IoOp → Bytes → List IoObs × Bytes
  | [], w => ([], w)
  | .write bs :: ops, w => let r := vecWriterOps ops (w ++ bs); (.count bs.length :: r.1, r.2)
  | .writeAll bs :: ops, w => let r := vecWriterOps ops (w ++ bs); (.unit :: r.1, r.2)
  | .flush :: ops, w => let r := vecWriterOps ops w; (.unit :: r.1, r.2)
  | _ :: ops, w => vecWriterOps ops w
end NoStd

end Borsh
