/-
  Schema containers (borsh/src/schema.rs) and the two analyses over them:
  `max_serialized_size` (schema/container_ext/max_size.rs) and `validate`
  (schema/container_ext/validate.rs), with their specifications.
  Cycles are data here: everything recurses on fuel, and the entry points supply
  `|definitions| + 1`, which the totality theorems show is never exhausted.
-/
import BorshModel.Basic
namespace Borsh

inductive Fields
  | named (fs : List (Name × Name))
  | unnamed (fs : List Name)
  | empty
  deriving DecidableEq, Repr, Inhabited

inductive Defn
  | primitive (size : Nat)
  | sequence (lw : Nat) (lo hi : Nat) (elem : Name)
  | tuple (elems : List Name)
  | enum (tw : Nat) (variants : List (Int × Name × Name))
  | struct (fields : Fields)
  deriving DecidableEq, Repr, Inhabited

/-- `BorshSchemaContainer`: a root declaration and a `BTreeMap` of definitions (an association
list; lookup returns the first match, iteration is in list order) -/
structure Container where
  decl : Name
  defs : List (Name × Defn)
  deriving DecidableEq, Repr, Inhabited

def Container.get (c : Container) (d : Name) : Option Defn :=
  (c.defs.find? fun e => e.1 == d).map (·.2)

def Fields.decls : Fields → List Name
  | .named fs => fs.map (·.2)
  | .unnamed fs => fs
  | .empty => []

/-- outcome of an analysis: a value, one of its own errors, or a Rust panic -/
inductive Res (ε α : Type)
  | ok (a : α)
  | error (e : ε)
  | panic (p : PanicSite)
  deriving Repr, DecidableEq, Inhabited

def Res.bind {ε α β : Type} (x : Res ε α) (f : α → Res ε β) : Res ε β :=
  match x with
  | .ok a => f a
  | .error e => .error e
  | .panic p => .panic p

def Res.isPanic {ε α : Type} : Res ε α → Bool
  | .panic _ => true
  | _ => false

def usizeLimit : Nat := 2 ^ 64

/-! ### max_serialized_size -/

inductive MaxErr
  | overflow | recursive | missing (d : Name)
  deriving DecidableEq, Repr, Inhabited

abbrev MaxRes := Res MaxErr Nat

def cAdd (x y : Nat) : MaxRes := if x + y < usizeLimit then .ok (x + y) else .error .overflow
def cMul (x y : Nat) : MaxRes := if x * y < usizeLimit then .ok (x * y) else .error .overflow

/-- the `tuple` helper: checked sum of the members' sizes -/
def sumWith (f : Name → MaxRes) : List Name → Nat → MaxRes
  | [], acc => .ok acc
  | e :: es, acc => (f e).bind fun sz => (cAdd acc sz).bind fun a => sumWith f es a

/-- the `Enum` arm: maximum over the variants -/
def maxWith (f : Name → MaxRes) : List Name → Nat → MaxRes
  | [], acc => .ok acc
  | v :: vs, acc => (f v).bind fun sz => maxWith f vs (max acc sz)

/-- `max_serialized_size_impl(count, declaration, schema, stack)`; `path` is the stack -/
def maxSize (c : Container) : Nat → Nat → Name → List Name → MaxRes
  | 0, _, _, _ => .panic .fuel
  | fuel+1, count, d, path =>
    if path.contains d then .error .recursive
    else match c.get d with
      | none => .error (.missing d)
      | some (.primitive size) => if size = 0 then .ok 0 else cMul size count
      | some (.sequence lw _ hi elem) =>
        (if hi = 0 then (.ok 0 : MaxRes) else maxSize c fuel hi elem (d :: path)).bind fun sz =>
          (cAdd sz lw).bind fun s => cMul count s
      | some (.enum tw variants) =>
        (maxWith (fun v => maxSize c fuel 1 v (d :: path)) (variants.map (·.2.2)) 0).bind fun m =>
          (cAdd m tw).bind fun s => cMul count s
      | some (.tuple elems) =>
        (sumWith (fun e => maxSize c fuel 1 e (d :: path)) elems 0).bind fun s => cMul count s
      | some (.struct fields) =>
        match fields with
        | .empty => .ok 0
        | fs => (sumWith (fun e => maxSize c fuel 1 e (d :: path)) fs.decls 0).bind fun s => cMul count s

/-- `BorshSchemaContainer::max_serialized_size` -/
def Container.maxSerializedSize (c : Container) : MaxRes :=
  maxSize c (c.defs.length + 1) 1 c.decl []

/-! ### is_zero_size and validate -/

inductive ZsErr
  | recursive | missing (d : Name)
  deriving DecidableEq, Repr, Inhabited

/-- `RangeInclusive<u64>::count()`, which panics when the count does not fit `usize` -/
def rangeCount (lo hi : Nat) : Res ZsErr Nat :=
  if lo ≤ hi then (if hi - lo + 1 < usizeLimit then .ok (hi - lo + 1) else .panic .countOverflow)
  else .ok 0

/-- "a fixed-length sequence": untagged and exactly one admissible length -/
def isFixedLen (lw lo hi : Nat) : Bool := lw == 0 && lo == hi

/-- the `all` helper: stops at the first member that is not zero-sized -/
def allWith (f : Name → Res ZsErr Bool) : List Name → Res ZsErr Bool
  | [] => .ok true
  | e :: es => (f e).bind fun z => if z then allWith f es else .ok false

def isZeroSize (c : Container) : Nat → Name → List Name → Res ZsErr Bool
  | 0, _, _ => .panic .fuel
  | fuel+1, d, path =>
    if path.contains d then .error .recursive
    else match c.get d with
      | none => .error (.missing d)
      | some (.primitive size) => .ok (size == 0)
      | some (.sequence lw lo hi elem) =>
        if lw == 0 then
          if lo == hi && lo == 0 then .ok true
          else isZeroSize c fuel elem (d :: path)
        else .ok false
      | some (.tuple elems) => allWith (fun e => isZeroSize c fuel e (d :: path)) elems
      | some (.enum tw variants) =>
        if tw == 0 then allWith (fun e => isZeroSize c fuel e (d :: path)) (variants.map (·.2.2))
        else .ok false
      | some (.struct fields) =>
        match fields with
        | .empty => .ok true
        | fs => allWith (fun e => isZeroSize c fuel e (d :: path)) fs.decls

inductive ValErr
  | zstSequence (d : Name) | tagTooWide (d : Name) | tagTooNarrow (d : Name)
  | tagNotPowerOfTwo (d : Name) | missing (d : Name) | emptyLengthRange (d : Name)
  deriving DecidableEq, Repr, Inhabited

/-- `check_length_width` -/
def checkLengthWidth (d : Name) (width : Nat) (max : Nat) : Res ValErr Unit :=
  if width = 0 then .ok ()
  else if width = 3 ∨ width = 5 ∨ width = 6 ∨ width = 7 then .error (.tagNotPowerOfTwo d)
  else if width ≤ 7 then (if max < 2 ^ (width * 8) then .ok () else .error (.tagTooNarrow d))
  else if width = 8 then .ok ()
  else .error (.tagTooWide d)

def eachWith (f : Name → Res ValErr Unit) : List Name → Res ValErr Unit
  | [] => .ok ()
  | e :: es => (f e).bind fun _ => eachWith f es

/-- `validate_impl(declaration, schema, stack)` -/
def validateImpl (c : Container) : Nat → Name → List Name → Res ValErr Unit
  | 0, _, _ => .panic .fuel
  | fuel+1, d, path =>
    match c.get d with
    | none => .error (.missing d)
    | some defn =>
      if path.contains d then .ok ()
      else match defn with
        | .primitive _ => .ok ()
        | .sequence lw lo hi elem =>
          if isFixedLen lw lo hi then validateImpl c fuel elem (d :: path)
          else if hi < lo then .error (.emptyLengthRange d)
          else (checkLengthWidth d lw hi).bind fun _ =>
            match isZeroSize c (c.defs.length + 1) elem [] with
            | .ok true => .error (.zstSequence d)
            | .ok false => validateImpl c fuel elem (d :: path)
            | .error .recursive => validateImpl c fuel elem (d :: path)
            | .error (.missing m) => .error (.missing m)
            | .panic p => .panic p
        | .enum tw variants =>
          if tw > 8 then .error (.tagTooWide d)
          else eachWith (fun e => validateImpl c fuel e (d :: path)) (variants.map (·.2.2))
        | .tuple elems => eachWith (fun e => validateImpl c fuel e (d :: path)) elems
        | .struct fields => eachWith (fun e => validateImpl c fuel e (d :: path)) fields.decls

/-- `BorshSchemaContainer::validate` -/
def Container.validate (c : Container) : Res ValErr Unit :=
  validateImpl c (c.defs.length + 1) c.decl []

end Borsh
