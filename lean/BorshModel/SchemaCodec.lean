/-
  The container type as a member of the universe (so that its wire format is the
  `Ty`-level codec, not a second one) and the conversions `Container ↔ Val`; the
  specifications of the two analyses.
-/
import BorshModel.Schema
import BorshModel.Ty
namespace Borsh

def n! (s : String) : Name := s.toUTF8.toList

def declTy : Ty := .str .string

def fieldsTy : Ty :=
  .sum (.derived (n! "Fields") false)
    [(n! "NamedFields", 0, [(none, false, .seq .vec (Ty.tuple [declTy, declTy]))]),
     (n! "UnnamedFields", 1, [(none, false, .seq .vec declTy)]),
     (n! "Empty", 2, [])]

def definitionTy : Ty :=
  .sum (.derived (n! "Definition") false)
    [(n! "Primitive", 0, [(none, false, .int .u8)]),
     (n! "Sequence", 1,
        [(some (n! "length_width"), false, .int .u8),
         (some (n! "length_range"), false,
            .prod .rangeInclusive [(none, false, .int .u64), (none, false, .int .u64)]),
         (some (n! "elements"), false, declTy)]),
     (n! "Tuple", 2, [(some (n! "elements"), false, .seq .vec declTy)]),
     (n! "Enum", 3,
        [(some (n! "tag_width"), false, .int .u8),
         (some (n! "variants"), false, .seq .vec (Ty.tuple [.int .i64, declTy, declTy]))]),
     (n! "Struct", 4, [(some (n! "fields"), false, fieldsTy)])]

/-- `BorshSchemaContainer` on the wire: the declaration, then a `BTreeMap` of definitions -/
def containerTy : Ty :=
  .prod (.struct (n! "BorshSchemaContainer") false)
    [(some (n! "declaration"), false, declTy),
     (some (n! "definitions"), false, .map .btreeMap declTy definitionTy)]

def nameOfVal : Val → Option Name
  | .blob bs => some bs
  | _ => none

def namesOfVals (vs : List Val) : Option (List Name) := vs.mapM nameOfVal

def natOfVal : Val → Option Nat
  | .int i => if 0 ≤ i then some i.toNat else none
  | _ => none

def fieldsOfVal : Val → Option Fields
  | .variant 0 [.list ps] =>
    (ps.mapM fun (p : Val) => match p with
      | .list [.blob a, .blob b] => some (a, b)
      | _ => none).map .named
  | .variant 1 [.list ns] => (namesOfVals ns).map .unnamed
  | .variant 2 [] => some .empty
  | _ => none

def defnOfVal : Val → Option Defn
  | .variant 0 [.int s] => some (.primitive s.toNat)
  | .variant 1 [.int lw, .list [.int lo, .int hi], .blob e] =>
    some (.sequence lw.toNat lo.toNat hi.toNat e)
  | .variant 2 [.list es] => (namesOfVals es).map .tuple
  | .variant 3 [.int tw, .list vs] =>
    (vs.mapM fun (v : Val) => match v with
      | .list [.int d, .blob n, .blob t] => some (d, n, t)
      | _ => none).map (.enum tw.toNat)
  | .variant 4 [f] => (fieldsOfVal f).map .struct
  | _ => none

def containerOfVal : Val → Option Container
  | .list [.blob d, .list es] =>
    (es.mapM fun (e : Val) => match e with
      | .list [.blob k, v] => (defnOfVal v).map fun dv => (k, dv)
      | _ => none).map fun defs => ⟨d, defs⟩
  | _ => none

def fieldsToVal : Fields → Val
  | .named fs => .variant 0 [.list (fs.map fun p => .list [.blob p.1, .blob p.2])]
  | .unnamed fs => .variant 1 [.list (fs.map .blob)]
  | .empty => .variant 2 []

def defnToVal : Defn → Val
  | .primitive s => .variant 0 [.int s]
  | .sequence lw lo hi e => .variant 1 [.int lw, .list [.int lo, .int hi], .blob e]
  | .tuple es => .variant 2 [.list (es.map .blob)]
  | .enum tw vs => .variant 3 [.int tw, .list (vs.map fun v => .list [.int v.1, .blob v.2.1, .blob v.2.2])]
  | .struct f => .variant 4 [fieldsToVal f]

def containerToVal (c : Container) : Val :=
  .list [.blob c.decl, .list (c.defs.map fun e => .list [.blob e.1, defnToVal e.2])]

/-! ### specifications -/

/-- the true maximum a schema implies, over unbounded naturals -/
inductive SpecSize
  | fin (n : Nat) | unbounded | missing (d : Name)
  deriving DecidableEq, Repr, Inhabited

def SpecSize.bind (x : SpecSize) (f : Nat → SpecSize) : SpecSize :=
  match x with
  | .fin n => f n
  | .unbounded => .unbounded
  | .missing d => .missing d

def specSum (f : Name → SpecSize) : List Name → SpecSize
  | [] => .fin 0
  | e :: es => (f e).bind fun a => (specSum f es).bind fun b => .fin (a + b)

def specMaxOf (f : Name → SpecSize) : List Name → SpecSize
  | [] => .fin 0
  | e :: es => (f e).bind fun a => (specMaxOf f es).bind fun b => .fin (max a b)

/-- sum over fields, largest variant plus tag, largest count times element size plus length
prefix — applied at every nesting level; a reachable cycle is unbounded -/
def specMax (c : Container) : Nat → Name → List Name → SpecSize
  | 0, _, _ => .unbounded
  | fuel+1, d, path =>
    if path.contains d then .unbounded
    else match c.get d with
      | none => .missing d
      | some (.primitive s) => .fin s
      | some (.sequence lw _ hi e) =>
        if hi = 0 then .fin lw else (specMax c fuel e (d :: path)).bind fun n => .fin (lw + hi * n)
      | some (.tuple es) => specSum (fun e => specMax c fuel e (d :: path)) es
      | some (.enum tw vs) =>
        (specMaxOf (fun e => specMax c fuel e (d :: path)) (vs.map (·.2.2))).bind fun m => .fin (tw + m)
      | some (.struct fs) => specSum (fun e => specMax c fuel e (d :: path)) fs.decls

def Container.specMax (c : Container) : SpecSize := Borsh.specMax c (c.defs.length + 1) c.decl []

end Borsh
