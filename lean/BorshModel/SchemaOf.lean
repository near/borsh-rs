/-
  `schemaOf t` — model of `BorshSchemaContainer::for_type::<T>()`: the built-in
  `BorshSchema` impls of borsh/src/schema.rs and the schema derive, driven by the same
  type description `Ty` that drives the codec model.
-/
import BorshModel.SchemaCodec
import BorshModel.De
import BorshModel.Ser
namespace Borsh

def joinNames (sep : Name) : List Name → Name
  | [] => []
  | [a] => a
  | a :: rest => a ++ sep ++ joinNames sep rest

def natName (n : Nat) : Name := (toString n).toUTF8.toList

def intName : IntK → String
  | .u8 => "u8" | .u16 => "u16" | .u32 => "u32" | .u64 => "u64" | .u128 => "u128"
  | .i8 => "i8" | .i16 => "i16" | .i32 => "i32" | .i64 => "i64" | .i128 => "i128"
  | .usize => "u64" | .isize => "i64"

def nonzeroName : IntK → String
  | .u8 => "NonZeroU8" | .u16 => "NonZeroU16" | .u32 => "NonZeroU32" | .u64 => "NonZeroU64"
  | .u128 => "NonZeroU128" | .i8 => "NonZeroI8" | .i16 => "NonZeroI16" | .i32 => "NonZeroI32"
  | .i64 => "NonZeroI64" | .i128 => "NonZeroI128" | .usize => "NonZeroUsize" | .isize => "NonZeroIsize"

mutual
/-- `T::declaration()` -/
def declOf : Ty → Name
  | .int k => n! (intName k)
  | .nonzero k => n! (nonzeroName k)
  | .float .f32 => n! "f32"
  | .float .f64 => n! "f64"
  | .bool => n! "bool"
  | .str k => if k.isAscii then n! "AsciiString" else n! "String"
  | .asciiChar => n! "AsciiChar"
  | .raw .ipv4 => n! "Ipv4Addr"
  | .raw .ipv6 => n! "Ipv6Addr"
  | .raw .objectId => n! "ObjectId"
  | .seq k t =>
    (match k with
     | .vecDeque => n! "VecDeque<"
     | .linkedList => n! "LinkedList<"
     | _ => n! "Vec<") ++ declOf t ++ n! ">"
  | .set k t =>
    (match k with
     | .hashSet => n! "HashSet<"
     | .btreeSet => n! "BTreeSet<") ++ declOf t ++ n! ">"
  | .map k a b =>
    (match k with
     | .hashMap => n! "HashMap<"
     | .btreeMap => n! "BTreeMap<"
     | .indexMap => n! "IndexMap<") ++ declOf a ++ n! ", " ++ declOf b ++ n! ">"
  | .array n t => n! "[" ++ declOf t ++ n! "; " ++ natName n ++ n! "]"
  | .prod k fs =>
    match k with
    | .tuple =>
      match declOfFields fs with
      | [a] => n! "(" ++ a ++ n! ",)"
      | ds => n! "(" ++ joinNames (n! ", ") ds ++ n! ")"
    | .unit | .phantom => n! "()"
    | .rangeFull => n! "RangeFull"
    | .range => n! "Range<" ++ joinNames (n! ", ") ((declOfFields fs).take 1) ++ n! ">"
    | .rangeInclusive => n! "RangeInclusive<" ++ joinNames (n! ", ") ((declOfFields fs).take 1) ++ n! ">"
    | .rangeFrom => n! "RangeFrom<" ++ joinNames (n! ", ") ((declOfFields fs).take 1) ++ n! ">"
    | .rangeTo => n! "RangeTo<" ++ joinNames (n! ", ") ((declOfFields fs).take 1) ++ n! ">"
    | .rangeToInclusive => n! "RangeToInclusive<" ++ joinNames (n! ", ") ((declOfFields fs).take 1) ++ n! ">"
    | .sockV4 => n! "SocketAddrV4"
    | .sockV6 => n! "SocketAddrV6"
    | .struct name _ => name
  | .sum k vs =>
    match k with
    | .option => n! "Option<" ++ joinNames (n! ", ") (declOfVariantPayloads vs) ++ n! ">"
    | .result => n! "Result<" ++ joinNames (n! ", ") (declOfVariantPayloads vs).reverse ++ n! ">"
    | .ipAddr => n! "IpAddr"
    | .sockAddr => n! "SocketAddr"
    | .derived name _ => name
  | .wrap _ t => declOf t
  | .custom t => declOf t
/-- declarations of all fields, skipped ones included -/
def declOfFields : List (Option Name × Bool × Ty) → List Name
  | [] => []
  | (_, _, t) :: fs => declOf t :: declOfFields fs
/-- declarations of the single-field payloads of the built-in sums (`Some(T)`, `Ok(T)`, `Err(E)`) -/
def declOfVariantPayloads : List (Name × Nat × List (Option Name × Bool × Ty)) → List Name
  | [] => []
  | (_, _, fs) :: vs => declOfFields fs ++ declOfVariantPayloads vs
end

abbrev Defs := List (Name × Defn)

/-- `add_definition`: insert into the ordered map; a different definition under an existing
name is the `assert_eq!` panic -/
def insertDef (d : Name) (df : Defn) : Defs → Res Unit Defs
  | [] => .ok [(d, df)]
  | (k, v) :: rest =>
    match cmpBytes d k with
    | .lt => .ok ((d, df) :: (k, v) :: rest)
    | .eq => if v = df then .ok ((k, v) :: rest) else .panic .assertRedefinition
    | .gt => (insertDef d df rest).bind fun r => .ok ((k, v) :: r)

def defsContain (m : Defs) (d : Name) : Bool := m.any fun e => e.1 == d

def defaultSeq (elem : Name) : Defn := .sequence 4 0 (2 ^ 32 - 1) elem

/-- the `Fields` of a derived struct: non-skipped fields only; named iff the fields have names -/
def schemaFields (fs : List Field) : Fields :=
  let kept := fs.filter fun f => !f.2.1
  match kept with
  | [] => .empty
  | (some _, _, _) :: _ => .named (kept.map fun f => (f.1.getD [], declOf f.2.2))
  | (none, _, _) :: _ => .unnamed (kept.map fun f => declOf f.2.2)

mutual
/-- `T::add_definitions_recursively(definitions)` -/
def addDefs : Ty → Defs → Res Unit Defs
  | .int k, m => insertDef (declOf (.int k)) (.primitive k.width) m
  | .nonzero k, m => insertDef (declOf (.nonzero k)) (.primitive k.width) m
  | .float k, m => insertDef (declOf (.float k)) (.primitive k.width) m
  | .bool, m => insertDef (n! "bool") (.primitive 1) m
  | .str k, m =>
    if k.isAscii then
      (insertDef (n! "AsciiString") (defaultSeq (n! "AsciiChar")) m).bind fun m =>
        insertDef (n! "AsciiChar") (.primitive 1) m
    else
      (insertDef (n! "String") (defaultSeq (n! "u8")) m).bind fun m =>
        insertDef (n! "u8") (.primitive 1) m
  | .asciiChar, m => insertDef (n! "AsciiChar") (.primitive 1) m
  | .raw k, m =>
    -- `struct Ipv4Addr { octets: [u8; 4] }` through the schema derive
    let arr := n! "[u8; " ++ natName k.width ++ n! "]"
    if defsContain m (declOf (.raw k)) then
      insertDef (declOf (.raw k)) (.struct (.named [(n! "octets", arr)])) m
    else
      (insertDef (declOf (.raw k)) (.struct (.named [(n! "octets", arr)])) m).bind fun m =>
        (insertDef arr (.sequence 0 k.width k.width (n! "u8")) m).bind fun m =>
          insertDef (n! "u8") (.primitive 1) m
  | .seq k t, m =>
    (insertDef (declOf (.seq k t)) (defaultSeq (declOf t)) m).bind fun m => addDefs t m
  | .set k t, m =>
    (insertDef (declOf (.set k t)) (defaultSeq (declOf t)) m).bind fun m => addDefs t m
  | .map k a b, m =>
    let pair := n! "(" ++ declOf a ++ n! ", " ++ declOf b ++ n! ")"
    (insertDef (declOf (.map k a b)) (defaultSeq pair) m).bind fun m =>
      (insertDef pair (.tuple [declOf a, declOf b]) m).bind fun m =>
        (addDefs a m).bind fun m => addDefs b m
  | .array n t, m =>
    (insertDef (declOf (.array n t)) (.sequence 0 n n (declOf t)) m).bind fun m => addDefs t m
  | .prod k fs, m =>
    match k with
    | .tuple =>
      (insertDef (declOf (.prod k fs)) (.tuple (declOfFields fs)) m).bind fun m => addDefsFields fs m
    | .unit | .phantom => insertDef (n! "()") (.primitive 0) m
    | .rangeFull => insertDef (n! "RangeFull") (.struct .empty) m
    | .range | .rangeInclusive =>
      (insertDef (declOf (.prod k fs))
        (.struct (.named ((declOfFields fs).zip [n! "start", n! "end"] |>.map fun p => (p.2, p.1)))) m).bind
        fun m => addDefsHead fs m
    | .rangeFrom =>
      (insertDef (declOf (.prod k fs)) (.struct (.named ((declOfFields fs).map fun d => (n! "start", d)))) m).bind
        fun m => addDefsFields fs m
    | .rangeTo | .rangeToInclusive =>
      (insertDef (declOf (.prod k fs)) (.struct (.named ((declOfFields fs).map fun d => (n! "end", d)))) m).bind
        fun m => addDefsFields fs m
    | .sockV4 | .sockV6 => .panic .unreachable          -- no `BorshSchema` impl exists
    | .struct name _ =>
      if defsContain m name then insertDef name (.struct (schemaFields fs)) m
      else (insertDef name (.struct (schemaFields fs)) m).bind fun m => addDefsKept fs m
  | .sum k vs, m =>
    match k with
    | .option =>
      (insertDef (declOf (.sum k vs))
        (.enum 1 [(0, n! "None", n! "()"), (1, n! "Some", joinNames [] (declOfVariantPayloads vs))]) m).bind fun m =>
        (addDefsVariants vs m).bind fun m => insertDef (n! "()") (.primitive 0) m
    | .result =>
      match declOfVariantPayloads vs with
      | [e, t] =>
        (insertDef (declOf (.sum k vs)) (.enum 1 [(1, n! "Ok", t), (0, n! "Err", e)]) m).bind fun m =>
          addDefsVariants vs m      -- (E then T; the order only matters for which conflict panics first)
      | _ => .panic .unreachable
    | .ipAddr | .derived _ _ =>
      -- per-variant inner structs `<Enum><Variant>`, then the enum itself
      (addDefsInner (declOf (.sum k vs)) vs m).bind fun m =>
        insertDef (declOf (.sum k vs))
          (.enum 1 (vs.map fun v => (((UInt8.ofNat v.2.1).toNat : Int), v.1, declOf (.sum k vs) ++ v.1))) m
    | .sockAddr => .panic .unreachable
  | .wrap _ t, m => addDefs t m
  | .custom t, m => addDefs t m
/-- every field -/
def addDefsFields : List (Option Name × Bool × Ty) → Defs → Res Unit Defs
  | [], m => .ok m
  | (_, _, t) :: fs, m => (addDefs t m).bind fun m => addDefsFields fs m
/-- the first field only (`Range<T>` has two fields of one type) -/
def addDefsHead : List (Option Name × Bool × Ty) → Defs → Res Unit Defs
  | [], m => .ok m
  | (_, _, t) :: _, m => addDefs t m
/-- the non-skipped fields (derived items) -/
def addDefsKept : List (Option Name × Bool × Ty) → Defs → Res Unit Defs
  | [], m => .ok m
  | (_, skip, t) :: fs, m =>
    if skip then addDefsKept fs m else (addDefs t m).bind fun m => addDefsKept fs m
/-- payload types of the built-in sums -/
def addDefsVariants : List (Name × Nat × List (Option Name × Bool × Ty)) → Defs → Res Unit Defs
  | [], m => .ok m
  | (_, _, fs) :: vs, m => (addDefsFields fs m).bind fun m => addDefsVariants vs m
/-- the derive's per-variant inner structs -/
def addDefsInner (enumDecl : Name) : List (Name × Nat × List (Option Name × Bool × Ty)) → Defs → Res Unit Defs
  | [], m => .ok m
  | (vn, _, fs) :: vs, m =>
    (if defsContain m (enumDecl ++ vn) then insertDef (enumDecl ++ vn) (.struct (schemaFields fs)) m
     else (insertDef (enumDecl ++ vn) (.struct (schemaFields fs)) m).bind fun m => addDefsKept fs m).bind
      fun m => addDefsInner enumDecl vs m
end

/-- `BorshSchemaContainer::for_type::<T>()` -/
def schemaOf (t : Ty) : Res Unit Container :=
  (addDefs t []).bind fun m => .ok ⟨declOf t, m⟩

def Res.toOut {α : Type} : Res Unit α → Out α
  | .ok a => .ok a
  | .error _ => .panic .unreachable
  | .panic p => .panic p

/-- bytes of a container through the universe's own codec -/
def containerBytes (c : Container) : Out Bytes := toVec containerTy (containerToVal c)

/-- `try_to_vec_with_schema`: the schema container, then the value -/
def tryToVecWithSchema (t : Ty) (v : Val) : Out Bytes :=
  (schemaOf t).toOut.bind fun c =>
    (containerBytes c).bind fun cb => (toVec t v).map fun vb => cb ++ vb

/-- `try_from_slice_with_schema::<U>`: decode `(BorshSchemaContainer, U)`, then compare the
embedded schema with `U`'s own -/
def tryFromSliceWithSchema (strict : Bool) (u : Ty) (bs : Bytes) : Out Val :=
  (deserialize strict containerTy bs).bind fun r =>
    (deserialize strict u r.2).bind fun q =>
      if !q.2.isEmpty then .err eNotAllBytesRead
      else (schemaOf u).toOut.bind fun cu =>
        if containerOfVal r.1 == some cu then .ok q.1 else .err ⟨.invalidData, .schemaMismatch⟩

end Borsh
