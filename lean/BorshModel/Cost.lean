/-
  Allocation behaviour of the two places where the decoder sizes a buffer from untrusted input:
  the byte-vector loop (`u8::vec_from_reader`) and `Vec::with_capacity(hint::cautious::<T>(len))`.
-/
import BorshModel.De
namespace Borsh

/-- the buffer sizes the byte-vector loop requests (initial `vec![0; min(len, 1 MiB)]`, then one
`resize` per doubling) when the slice still holds `avail` bytes; `pos` bytes were received -/
def bulkAllocs : Nat → Nat → Nat → Nat → Nat → List Nat
  | 0, _, _, _, _ => []
  | fuel+1, len, cap, pos, avail =>
    if pos < len then
      let cap' := if pos == cap then min (2 * cap) len else cap
      let got := min (cap' - pos) avail
      (if pos == cap then [cap'] else []) ++
        (if got == 0 then [] else bulkAllocs fuel len cap' (pos + got) (avail - got))
    else []

/-- every request of `u8::vec_from_reader(len)` on a slice of `avail` bytes -/
def bulkRequests (len avail : Nat) : List Nat :=
  min len bulkCap :: bulkAllocs (len + 1) len (min len bulkCap) 0 avail

/-- `hint::cautious::<T>(hint)` with `el_size = size_of::<T>() as u32` -/
def cautious (elSize hint : Nat) : Out Nat :=
  let e := elSize % 2 ^ 32
  if e = 0 then .panic .divByZero else .ok (max (min hint (4096 / e)) 1)

theorem allocCap_mono {a b : Nat} (h : a ≤ b) : max bulkCap (2 * a) ≤ max bulkCap (2 * b) :=
  Nat.max_le.mpr ⟨Nat.le_max_left _ _, Nat.le_trans (Nat.mul_le_mul_left 2 h) (Nat.le_max_right _ _)⟩

theorem bulkAllocs_bound :
    ∀ (fuel len cap pos avail : Nat), pos ≤ cap → cap ≤ max bulkCap (2 * pos) →
      ∀ c ∈ bulkAllocs fuel len cap pos avail, c ≤ max bulkCap (2 * (pos + avail)) := by
  intro fuel
  induction fuel with
  | zero => intro len cap pos avail _ _ c hc; cases hc
  | succ fuel ih =>
    intro len cap pos avail hpc hcap c hc
    rw [bulkAllocs] at hc
    by_cases hlt : pos < len
    · rw [if_pos hlt] at hc
      dsimp only at hc
      -- the capacity after this round is still at most 1 MiB or twice what was received
      have h1 : pos ≤ (if (pos == cap) = true then min (2 * cap) len else cap) ∧
          (if (pos == cap) = true then min (2 * cap) len else cap) ≤ max bulkCap (2 * pos) := by
        by_cases he : (pos == cap) = true
        · rw [if_pos he, ← eq_of_beq he]
          exact ⟨Nat.le_min.mpr ⟨Nat.le_mul_of_pos_left pos Nat.two_pos, Nat.le_of_lt hlt⟩,
            Nat.le_trans (Nat.min_le_left _ _) (Nat.le_max_right _ _)⟩
        · rw [if_neg he]
          exact ⟨hpc, hcap⟩
      generalize (if (pos == cap) = true then min (2 * cap) len else cap) = cap' at hc h1
      have h2 := Nat.min_le_left (cap' - pos) avail
      have h3 := Nat.min_le_right (cap' - pos) avail
      generalize min (cap' - pos) avail = got at hc h2 h3
      rcases List.mem_append.mp hc with h | h
      · by_cases he : (pos == cap) = true
        · rw [if_pos he] at h
          exact List.mem_singleton.mp h ▸ Nat.le_trans h1.2 (allocCap_mono (Nat.le_add_right ..))
        · rw [if_neg he] at h; cases h
      · by_cases hg : (got == 0) = true
        · rw [if_pos hg] at h; cases h
        · rw [if_neg hg] at h
          have := ih len cap' (pos + got) (avail - got) (Nat.add_le_of_le_sub' h1.1 h2)
            (Nat.le_trans h1.2 (allocCap_mono (Nat.le_add_right ..))) c h
          rwa [Nat.add_assoc, Nat.add_sub_cancel' h3] at this
    · rw [if_neg hlt] at hc; cases hc

theorem bulkRequests_bound (len avail : Nat) :
    ∀ c ∈ bulkRequests len avail, c ≤ max bulkCap (2 * avail) := by
  intro c hc
  have h0 : ∀ x, min len bulkCap ≤ max bulkCap x := fun _ =>
    Nat.le_trans (Nat.min_le_right _ _) (Nat.le_max_left _ _)
  rcases List.mem_cons.mp hc with h | h
  · exact h ▸ h0 _
  · have := bulkAllocs_bound (len + 1) len (min len bulkCap) 0 avail (Nat.zero_le _) (h0 _) c h
    rwa [Nat.zero_add] at this

theorem cautious_eq {elSize hint : Nat} (h1 : 0 < elSize) (h2 : elSize < 2 ^ 32) :
    cautious elSize hint = .ok (max (min hint (4096 / elSize)) 1) := by
  rw [cautious, Nat.mod_eq_of_lt h2]
  exact if_neg (Nat.ne_of_gt h1)

theorem cautious_bound (elSize hint n : Nat) (h : cautious elSize hint = .ok n) (hs : elSize < 2 ^ 32) :
    1 ≤ n ∧ n * elSize ≤ max 4096 elSize := by
  rcases Nat.eq_zero_or_pos elSize with h0 | h0
  · subst h0; cases h
  · rw [cautious_eq h0 hs] at h
    cases h
    refine ⟨Nat.le_max_right _ _, ?_⟩
    rcases Nat.le_total (min hint (4096 / elSize)) 1 with hm | hm
    · rw [Nat.max_eq_right hm, Nat.one_mul]; exact Nat.le_max_right _ _
    · rw [Nat.max_eq_left hm]
      exact Nat.le_trans (Nat.mul_le_mul_right _ (Nat.min_le_right _ _))
        (Nat.le_trans (Nat.div_mul_le_self _ _) (Nat.le_max_left _ _))

/-- `cautious` answers for every element size from 1 byte to just under 4 GiB (its one panic site is
the division by a size that is 0 modulo 2^32) -/
theorem cautious_no_panic (elSize hint : Nat) (h1 : 0 < elSize) (h2 : elSize < 2 ^ 32) :
    ∃ n, cautious elSize hint = .ok n :=
  ⟨_, cautious_eq h1 h2⟩

end Borsh
