/-
  Decidable typing `HasTy` (which representations are values of which type) and the
  external predicates borsh relies on: UTF-8 well-formedness, ASCII, NaN bit patterns.
-/
import BorshModel.Bytes
import BorshModel.Ord
import BorshModel.Layout
namespace Borsh

def isCont (b : UInt8) : Bool := 0x80 ≤ b && b ≤ 0xBF

/-- well-formed UTF-8 (Unicode Table 3-7) — what `String::from_utf8` accepts -/
def validUtf8 : Bytes → Bool
  | [] => true
  | b0 :: rest =>
    if b0 < 0x80 then validUtf8 rest
    else if 0xC2 ≤ b0 && b0 ≤ 0xDF then
      match rest with
      | b1 :: r => isCont b1 && validUtf8 r
      | _ => false
    else if 0xE0 ≤ b0 && b0 ≤ 0xEF then
      match rest with
      | b1 :: b2 :: r =>
        (if b0 == 0xE0 then 0xA0 ≤ b1 && b1 ≤ 0xBF
         else if b0 == 0xED then 0x80 ≤ b1 && b1 ≤ 0x9F
         else isCont b1) && isCont b2 && validUtf8 r
      | _ => false
    else if 0xF0 ≤ b0 && b0 ≤ 0xF4 then
      match rest with
      | b1 :: b2 :: b3 :: r =>
        (if b0 == 0xF0 then 0x90 ≤ b1 && b1 ≤ 0xBF
         else if b0 == 0xF4 then 0x80 ≤ b1 && b1 ≤ 0x8F
         else isCont b1) && isCont b2 && isCont b3 && validUtf8 r
      | _ => false
    else false

def allAscii (bs : Bytes) : Bool := bs.all (· < 0x80)

/-- IEEE-754 NaN test on a bit pattern (`f32::is_nan` / `f64::is_nan` after `from_bits`) -/
def isNanBits (k : FloatK) (bits : Nat) : Bool :=
  match k with
  | .f32 => (bits / 2^23) % 2^8 == 2^8 - 1 && bits % 2^23 != 0
  | .f64 => (bits / 2^52) % 2^11 == 2^11 - 1 && bits % 2^52 != 0

def intInRange (k : IntK) (i : Int) : Bool :=
  if k.signed then
    decide (-(256 ^ k.width / 2 : Int) ≤ i) && decide (i < (256 ^ k.width / 2 : Int))
  else
    decide (0 ≤ i) && decide (i < (256 ^ k.width : Int))

/-- two's-complement little-endian bytes of an integer of kind `k` -/
def encInt (k : IntK) (i : Int) : Bytes :=
  leBytes k.width (i % (256 ^ k.width : Int)).toNat

/-- `from_le_bytes` for kind `k` -/
def decInt (k : IntK) (bs : Bytes) : Int :=
  let n := ofLe bs
  if k.signed = true ∧ 256 ^ k.width / 2 ≤ n then (n : Int) - (256 ^ k.width : Int) else (n : Int)

/-- no two elements have equal keys -/
def distinctKeys (key : Val → Val) : List Val → Bool
  | [] => true
  | x :: xs => xs.all (fun y => Val.cmp (key x) (key y) != .eq) && distinctKeys key xs

def isPair : Val → Bool
  | .list [_, _] => true
  | _ => false

mutual
def HasTy : Ty → Val → Bool
  | .int k, .int i => intInRange k i
  | .nonzero k, .int i => intInRange k i && i != 0
  | .float k, .int b => decide (0 ≤ b) && decide (b < (256 ^ k.width : Int))
  | .bool, .bool _ => true
  | .str k, .blob bs => if k.isAscii then allAscii bs else validUtf8 bs
  | .asciiChar, .int i => decide (0 ≤ i) && decide (i < 128)
  | .raw k, .blob bs => bs.length == k.width
  | .seq k t, .list vs =>
    k != .vecDeque && vs.all (HasTy t) && (k != .indexSet || distinctKeys id vs)
  | .seq k t, .deque a b => k == .vecDeque && a.all (HasTy t) && b.all (HasTy t)
  | .set k t, .list vs =>
    vs.all (HasTy t) &&
      (match k with
       | .btreeSet => strictlyAscending id vs
       | .hashSet => distinctKeys id vs)
  | .map k kt vt, .list es =>
    es.all (fun e => match e with
      | .list [a, b] => HasTy kt a && HasTy vt b
      | _ => false) &&
      (match k with
       | .btreeMap => strictlyAscending entryKey es
       | _ => distinctKeys entryKey es)
  | .array n t, .list vs => vs.length == n && vs.all (HasTy t)
  | .prod _ fs, .list vs => HasTyFields fs vs
  | .sum _ vs, .variant idx fvs => HasTyVariant vs idx fvs
  | .wrap _ t, v => HasTy t v
  | .custom t, v => HasTy t v
  | _, _ => false
def HasTyFields : List (Option Name × Bool × Ty) → List Val → Bool
  | [], [] => true
  | (_, _, t) :: fs, v :: vs => HasTy t v && HasTyFields fs vs
  | _, _ => false
def HasTyVariant : List (Name × Nat × List (Option Name × Bool × Ty)) → Nat → List Val → Bool
  | [], _, _ => false
  | (_, _, fs) :: _, 0, fvs => HasTyFields fs fvs
  | _ :: vs, i+1, fvs => HasTyVariant vs i fvs
end

end Borsh
