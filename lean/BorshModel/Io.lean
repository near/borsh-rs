/-
  Scripted readers and writers, and the `read_exact` / `write_all` loops of both io
  implementations (std's defaults as documented, and borsh/src/nostd_io.rs).

  A script is positional: what a `read`/`write` call does depends on the stream offset
  (how many bytes were delivered so far), not on how many calls were made, so that the
  observable outcome is independent of how many calls a refactoring of borsh issues.
-/
import BorshModel.De
import BorshModel.Ser
namespace Borsh

/-- what a scripted endpoint does when it stops for good -/
inductive Stop
  | fail (kind : Kind) (msgId : Nat)     -- `Err(Error::new(kind, "user:<id>"))`
  | zero                                  -- writers only: `Ok(0)`
  deriving DecidableEq, Repr, Inhabited

structure Script where
  /-- chunk limits, indexed cyclically by stream offset (empty = unlimited) -/
  chunks : List Nat
  /-- a hard stop at this offset -/
  stop   : Option (Nat × Stop)
  deriving Repr, Inhabited

def Script.chunkAt (sc : Script) (o : Nat) : Nat :=
  match sc.chunks with
  | [] => 0
  | cs => cs.getD (o % cs.length) 0

/-- `0` stands for "no limit" -/
def limit (c n : Nat) : Nat := if c = 0 then n else min c n

def userErr (k : Kind) (id : Nat) : Err := ⟨k, .user id⟩

def stopOffsets (sc : Script) : List Nat :=
  match sc.stop with
  | some (o, _) => [o]
  | none => []

/-- distance from `pos` to the next scripted event (a stop or a pending interrupt) strictly
ahead, `0` if there is none: a transfer never crosses an event, so every event is met -/
def eventCap (sc : Script) (intr : List (Nat × Nat)) (pos : Nat) : Nat :=
  let ahead := (stopOffsets sc ++ (intr.filter fun p => p.2 > 0).map (·.1)).filter fun o => o > pos
  match ahead with
  | [] => 0
  | o :: os => os.foldl (fun m x => min m (x - pos)) (o - pos)

/-- bytes moved by one call: buffer length, chunk limit and event cap -/
def xferLen (sc : Script) (intr : List (Nat × Nat)) (pos n : Nat) : Nat :=
  limit (eventCap sc intr pos) (limit (sc.chunkAt pos) n)

/-! ### readers -/

structure RState where
  data : Bytes
  pos  : Nat
  /-- pending `Interrupted` results: (offset, how many) -/
  intr : List (Nat × Nat)
  deriving Repr, Inhabited

def pendingAt : List (Nat × Nat) → Nat → Nat
  | [], _ => 0
  | (o', n) :: rest, o => (if o' == o then n else 0) + pendingAt rest o

def consumeIntr : List (Nat × Nat) → Nat → List (Nat × Nat)
  | [], _ => []
  | (o', n) :: rest, o =>
    if o' == o && n > 0 then (o', n - 1) :: rest else (o', n) :: consumeIntr rest o

def totalPending : List (Nat × Nat) → Nat
  | [] => 0
  | (_, n) :: rest => n + totalPending rest

/-- one `Read::read` call on the scripted reader with a buffer of `n > 0` bytes -/
def scriptRead (sc : Script) (n : Nat) (s : RState) : Out (Bytes × RState) :=
  if pendingAt s.intr s.pos > 0 then
    -- the state change (one interrupt consumed) is carried in the error path by the loops below
    .err ⟨.interrupted, .simple⟩
  else match sc.stop with
    | some (o, .fail k id) =>
      if o == s.pos then .err (userErr k id)
      else
        let got := (s.data.drop s.pos).take (xferLen sc s.intr s.pos n)
        .ok (got, { s with pos := s.pos + got.length })
    | _ =>
      let got := (s.data.drop s.pos).take (xferLen sc s.intr s.pos n)
      .ok (got, { s with pos := s.pos + got.length })

/-- the state after an `Interrupted` result -/
def afterIntr (s : RState) : RState := { s with intr := consumeIntr s.intr s.pos }

/--
`default_read_exact` (identical in std and in nostd_io.rs:944): loop until the buffer is
full; `Ok(0)` ends the loop (then `UnexpectedEof`), `Interrupted` retries, other errors return.
-/
def readExactLoop (sc : Script) : Nat → Nat → Bytes → RState → Out (Bytes × RState)
  | 0, _, _, _ => .panic .fuel
  | fuel+1, n, acc, s =>
    if acc.length < n then
      match scriptRead sc (n - acc.length) s with
      | .ok (got, s') =>
        if got.length == 0 then .err eEof
        else readExactLoop sc fuel n (acc ++ got) s'
      | .err e =>
        if e.kind = .interrupted then readExactLoop sc fuel n acc (afterIntr s) else .err e
      | .panic p => .panic p
    else .ok (acc, s)

def Std.readExact (sc : Script) (n : Nat) (s : RState) : Out (Bytes × RState) :=
  readExactLoop sc (n + totalPending s.intr + 1) n [] s

def NoStd.readExact (sc : Script) (n : Nat) (s : RState) : Out (Bytes × RState) :=
  readExactLoop sc (n + totalPending s.intr + 1) n [] s

/-- the loop of `u8::vec_from_reader` over the scripted `read`, `Interrupted` retried -/
def bulkLoopI (sc : Script) : Nat → Nat → Nat → Bytes → RState → Out (Bytes × RState)
  | 0, _, _, _, _ => .panic .fuel
  | fuel+1, len, cap, acc, s =>
    if acc.length < len then
      let cap' := if acc.length == cap then min (2 * cap) len else cap
      match scriptRead sc (cap' - acc.length) s with
      | .ok (got, s') =>
        if got.length == 0 then .err eUnexpectedLength
        else bulkLoopI sc fuel len cap' (acc ++ got) s'
      | .err e =>
        if e.kind = .interrupted then bulkLoopI sc fuel len cap' acc (afterIntr s) else .err e
      | .panic p => .panic p
    else .ok (acc, s)

def Rd.script (sc : Script) : Rd RState where
  readExact n s := Std.readExact sc n s
  readBulk len s := bulkLoopI sc (len + totalPending s.intr + 1) len (min len bulkCap) [] s

/-! ### writers -/

structure WState where
  delivered : Bytes
  intr : List (Nat × Nat)
  deriving Repr, Inhabited

/-- one `Write::write` call with a non-empty buffer -/
def scriptWrite (sc : Script) (buf : Bytes) (w : WState) : Out (Nat × WState) :=
  let o := w.delivered.length
  if pendingAt w.intr o > 0 then .err ⟨.interrupted, .simple⟩
  else match sc.stop with
    | some (so, st) =>
      if so == o then
        match st with
        | .zero => .ok (0, w)
        | .fail k id => .err (userErr k id)
      else
        let n := xferLen sc w.intr o buf.length
        .ok (n, { w with delivered := w.delivered ++ buf.take n })
    | none =>
      let n := xferLen sc w.intr o buf.length
      .ok (n, { w with delivered := w.delivered ++ buf.take n })

def afterIntrW (w : WState) : WState := { w with intr := consumeIntr w.intr w.delivered.length }

/-- `Write::write_all` (std default and nostd_io.rs:504): loop while the buffer is non-empty;
`Ok(0)` is `WriteZero`, `Interrupted` retries -/
def writeAllLoop (sc : Script) : Nat → Bytes → WState → WState × Out Unit
  | 0, _, w => (w, .panic .fuel)
  | fuel+1, buf, w =>
    if buf.isEmpty then (w, .ok ())
    else match scriptWrite sc buf w with
      | .ok (n, w') =>
        if n == 0 then (w', .err eWriteZero) else writeAllLoop sc fuel (buf.drop n) w'
      | .err e =>
        if e.kind = .interrupted then writeAllLoop sc fuel buf (afterIntrW w) else (w, .err e)
      | .panic p => (w, .panic p)

def writeAll (sc : Script) (buf : Bytes) (w : WState) : WState × Out Unit :=
  writeAllLoop sc (buf.length + totalPending w.intr + 1) buf w

/-- run a serializer trace against the scripted writer: each chunk through `write_all`, the
first writer error ends the run; then the serializer's own status -/
def runTrace (sc : Script) : List Bytes → Out Unit → WState → WState × Out Unit
  | [], status, w => (w, status)
  | c :: cs, status, w =>
    match writeAll sc c w with
    | (w', .ok ()) => runTrace sc cs status w'
    | (w', r) => (w', r)

/-- `borsh::to_writer` into a scripted writer -/
def toWriterScript (sc : Script) (intr : List (Nat × Nat)) (t : Ty) (v : Val) : WState × Out Unit :=
  let tr := ser t v
  runTrace sc tr.chunks tr.status ⟨[], intr⟩

/-! ### `&mut [u8]` -/

/-- `write_all` on a fixed slice of `cap` remaining bytes: all or the fitting prefix + WriteZero -/
def fixedWriteAll (buf : Bytes) (st : Bytes × Nat) : (Bytes × Nat) × Out Unit :=
  let (written, room) := st
  let n := min buf.length room
  ((written ++ buf.take n, room - n), if n == buf.length then .ok () else .err eWriteZero)

def runTraceFixed : List Bytes → Out Unit → Bytes × Nat → (Bytes × Nat) × Out Unit
  | [], status, st => (st, status)
  | c :: cs, status, st =>
    match fixedWriteAll c st with
    | (st', .ok ()) => runTraceFixed cs status st'
    | (st', r) => (st', r)

/-- `value.serialize(&mut &mut buf[..])` for a buffer of capacity `cap` -/
def toFixedBuffer (cap : Nat) (t : Ty) (v : Val) : (Bytes × Nat) × Out Unit :=
  let tr := ser t v
  runTraceFixed tr.chunks tr.status ([], cap)

/-! ### `object_length` -/

/-- the length-only writer with `checked_add` -/
def runTraceLen : List Bytes → Out Unit → Nat → Out Nat
  | [], status, n => status.map fun _ => n
  | c :: cs, status, n =>
    if n + c.length < 2 ^ 64 then runTraceLen cs status (n + c.length)
    else .err ⟨.outOfMemory, .simple⟩

def objectLength (t : Ty) (v : Val) : Out Nat :=
  let tr := ser t v
  runTraceLen tr.chunks tr.status 0

end Borsh
