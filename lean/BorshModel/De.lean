/-
  `Impl.de` — executable model of `BorshDeserialize` (borsh/src/de/mod.rs and the
  derived impls), written once over an abstract reader.  Every read the Rust code
  issues is either `read_exact` on a buffer of known length or, for byte vectors
  only, the chunked loop of `u8::vec_from_reader`; these are the two fields of `Rd`.
-/
import BorshModel.Typing
namespace Borsh

structure Rd (σ : Type) where
  /-- `Read::read_exact` on a buffer of `n` bytes -/
  readExact : Nat → σ → Out (Bytes × σ)
  /-- `u8::vec_from_reader(len, reader)` for `len > 0` -/
  readBulk  : Nat → σ → Out (Bytes × σ)

/-- `for _ in 0..len { result.push(T::deserialize_reader(reader)?) }` -/
def repeatDe {σ : Type} (f : σ → Out (Val × σ)) : Nat → σ → Out (List Val × σ)
  | 0, s => .ok ([], s)
  | n+1, s =>
    (f s).bind fun r => (repeatDe f n r.2).bind fun rs => .ok (r.1 :: rs.1, rs.2)

/-- `read_exact(..).map_err(unexpected_eof_to_unexpected_length_of_input)` -/
def readMapped {σ : Type} (rd : Rd σ) (n : Nat) (s : σ) : Out (Bytes × σ) :=
  (rd.readExact n s).mapErr mapEof

/-- `u8::deserialize_reader` -/
def readU8 {σ : Type} (rd : Rd σ) (s : σ) : Out (UInt8 × σ) :=
  (readMapped rd 1 s).bind fun r =>
    match r.1 with
    | [b] => .ok (b, r.2)
    | _ => .panic .sliceIndex

/-- `u32::deserialize_reader` -/
def readU32 {σ : Type} (rd : Rd σ) (s : σ) : Out (Nat × σ) :=
  (readMapped rd 4 s).map fun r => (ofLe r.1, r.2)

def bytesVal (bs : Bytes) : List Val := bs.map fun b => .int b.toNat

/-- `Vec::<u8>::deserialize_reader` as used by `String`, `AsciiString`, `Bytes` -/
def deByteVec {σ : Type} (rd : Rd σ) (s : σ) : Out (Bytes × σ) :=
  (readU32 rd s).bind fun r =>
    if r.1 == 0 then .ok ([], r.2) else rd.readBulk r.1 r.2

/-- `Vec::<T>::deserialize_reader` after `check_zst`; `f` is `T::deserialize_reader` -/
def deVec {σ : Type} (rd : Rd σ) (isU8 : Bool) (f : σ → Out (Val × σ)) (s : σ) :
    Out (List Val × σ) :=
  (readU32 rd s).bind fun r =>
    if r.1 == 0 then .ok ([], r.2)
    else if isU8 then (rd.readBulk r.1 r.2).map fun q => (bytesVal q.1, q.2)
    else repeatDe f r.1 r.2

/-- a map entry `(K, V)`: the key, then the value -/
def deEntry {σ : Type} (dk dv : σ → Out (Val × σ)) (s : σ) : Out (Val × σ) :=
  (dk s).bind fun a => (dv a.2).map fun b => (.list [a.1, b.1], b.2)

/-- the init hook of the generated fixtures: the last field (a skipped counter) is incremented -/
def applyInit : List Val → List Val
  | [] => []
  | [.int i] => [.int (i + 1)]
  | [v] => [v]
  | v :: vs => v :: applyInit vs

def ProdK.init : ProdK → Bool
  | .struct _ i => i
  | _ => false
def SumK.init : SumK → Bool
  | .derived _ i => i
  | _ => false

def initVariant (b : Bool) : Val → Val
  | .variant i fs => .variant i (if b then applyInit fs else fs)
  | v => v

mutual
def de {σ : Type} (rd : Rd σ) (strict : Bool) : Ty → σ → Out (Val × σ)
  | .int k, s => (readMapped rd k.width s).map fun r => (.int (decInt k r.1), r.2)
  | .nonzero k, s =>
    (readMapped rd k.width s).bind fun r =>
      let i := decInt k r.1
      if i == 0 then .err eZero else .ok (.int i, r.2)
  | .float k, s =>
    (readMapped rd k.width s).bind fun r =>
      let b := ofLe r.1
      if isNanBits k b then .err eNanDe else .ok (.int b, r.2)
  | .bool, s =>
    (readU8 rd s).bind fun r =>
      if r.1 == 0 then .ok (.bool false, r.2)
      else if r.1 == 1 then .ok (.bool true, r.2)
      else .err (eBadTag .bool r.1)
  | .str k, s =>
    (deByteVec rd s).bind fun r =>
      if k.isAscii then (if allAscii r.1 then .ok (.blob r.1, r.2) else .err eAscii)
      else (if validUtf8 r.1 then .ok (.blob r.1, r.2) else .err eUtf8)
  | .asciiChar, s =>
    (readU8 rd s).bind fun r =>
      if r.1 < 128 then .ok (.int r.1.toNat, r.2) else .err eAscii
  | .raw k, s =>
    (readMapped rd k.width s).map fun r => (.blob r.1, r.2)
  | .seq k t, s =>
    match k with
    | .bytesMut =>
      (readU32 rd s).bind fun r =>
        (repeatDe (fun s => (readU8 rd s).map fun b => (Val.int b.1.toNat, b.2)) r.1 r.2).map
          fun q => (.list q.1, q.2)
    | _ =>
      if memZero t then .err eZst
      else (deVec rd t.isU8 (de rd strict t) s).map fun r =>
        match k with
        | .vecDeque => (.deque r.1 [], r.2)
        | .indexSet => (.list (collectIndexSet r.1), r.2)
        | _ => (.list r.1, r.2)
  | .set _ t, s =>
    if memZero t then .err eZst
    else (deVec rd t.isU8 (de rd strict t) s).bind fun r =>
      if strict && !strictlyAscending id r.1 then .err eKeyOrder
      else .ok (.list (collectSet r.1), r.2)
  | .map k kt vt, s =>
    if memZero kt then .err eZst
    else (deVec rd false (deEntry (de rd strict kt) (de rd strict vt)) s).bind fun r =>
      match k with
      | .indexMap => .ok (.list (collectIndexMap r.1), r.2)
      | _ =>
        if strict && !strictlyAscending entryKey r.1 then .err eKeyOrder
        else .ok (.list (collectMap r.1), r.2)
  | .array n t, s =>
    if t.isU8 then (readMapped rd n s).map fun r => (.list (bytesVal r.1), r.2)
    else (repeatDe (de rd strict t) n s).map fun r => (.list r.1, r.2)
  | .prod k fs, s =>
    (deFields rd strict fs s).map fun r => (.list (if k.init then applyInit r.1 else r.1), r.2)
  | .sum k vs, s =>
    (readU8 rd s).bind fun r =>
      (deVariants rd strict k.tagK vs r.1 0 r.2).map fun q => (initVariant k.init q.1, q.2)
  | .wrap _ t, s => de rd strict t s
  | .custom _, s => (readMapped rd 4 s).map fun r => (.int (ofLe r.1.reverse), r.2)
/-- fields in declaration order; a skipped field is `Default::default()` and reads nothing -/
def deFields {σ : Type} (rd : Rd σ) (strict : Bool) :
    List (Option Name × Bool × Ty) → σ → Out (List Val × σ)
  | [], s => .ok ([], s)
  | (_, skip, t) :: fs, s =>
    if skip then (deFields rd strict fs s).map fun r => (defaultOf t :: r.1, r.2)
    else (de rd strict t s).bind fun a =>
      (deFields rd strict fs a.2).map fun r => (a.1 :: r.1, r.2)
/-- `if tag == d₀ {…} else if tag == d₁ {…} else { Err(InvalidData) }` -/
def deVariants {σ : Type} (rd : Rd σ) (strict : Bool) (tk : TagK) :
    List (Name × Nat × List (Option Name × Bool × Ty)) → UInt8 → Nat → σ → Out (Val × σ)
  | [], tag, _, _ => .err (eBadTag tk tag)
  | (_, g, fs) :: vs, tag, idx, s =>
    if UInt8.ofNat g == tag then (deFields rd strict fs s).map fun r => (.variant idx r.1, r.2)
    else deVariants rd strict tk vs tag (idx + 1) s
end

/-! ### the slice reader (`impl Read for &[u8]`, same in std and in the shim) -/

/-- `<&[u8] as Read>::read` with a buffer of `n` bytes -/
def sliceRead (n : Nat) (bs : Bytes) : Out (Bytes × Bytes) := .ok (bs.take n, bs.drop n)

/-- `n ≤ bs.length`, walking at most `n` cells (the length of the whole remaining input is never
computed: a decode is linear in what it consumes) -/
def lengthGe : Bytes → Nat → Bool
  | _, 0 => true
  | [], _+1 => false
  | _ :: t, n+1 => lengthGe t n

theorem lengthGe_iff (bs : Bytes) (n : Nat) : lengthGe bs n = true ↔ n ≤ bs.length := by
  induction bs generalizing n with
  | nil => cases n <;> simp [lengthGe]
  | cons b t ih => cases n <;> simp [lengthGe, ih]

/-- `<&[u8] as Read>::read_exact` -/
def sliceReadExact (n : Nat) (bs : Bytes) : Out (Bytes × Bytes) :=
  if lengthGe bs n then .ok (bs.take n, bs.drop n) else .err eEof

/-- 1 MiB: the initial allocation cap of `u8::vec_from_reader` -/
def bulkCap : Nat := 2 ^ 20

/--
The loop of `u8::vec_from_reader` (de/mod.rs:164-183) over a primitive `read`:
`cap` is `vec.len()`, `acc` the bytes received so far (`pos = acc.length`).
-/
def bulkLoop {σ : Type} (read : Nat → σ → Out (Bytes × σ)) :
    Nat → Nat → Nat → Bytes → σ → Out (Bytes × σ)
  | 0, _, _, _, _ => .panic .fuel
  | fuel+1, len, cap, acc, s =>
    if acc.length < len then
      let cap' := if acc.length == cap then min (2 * cap) len else cap
      (read (cap' - acc.length) s).bind fun r =>
        if r.1.length == 0 then .err eUnexpectedLength
        else bulkLoop read fuel len cap' (acc ++ r.1) r.2
    else .ok (acc, s)

def bulkRead {σ : Type} (read : Nat → σ → Out (Bytes × σ)) (fuel len : Nat) (s : σ) :
    Out (Bytes × σ) :=
  bulkLoop read fuel len (min len bulkCap) [] s

def Rd.slice : Rd Bytes where
  readExact := sliceReadExact
  readBulk len bs := bulkRead sliceRead (len + 1) len bs

/-! ### entry points -/

/-- `BorshDeserialize::deserialize(&mut &[u8])`: value and remaining slice -/
def deserialize (strict : Bool) (t : Ty) (bs : Bytes) : Out (Val × Bytes) :=
  de Rd.slice strict t bs

/-- successive `deserialize` calls on one buffer -/
def deserializeMany (strict : Bool) : List Ty → Bytes → Out (List Val × Bytes)
  | [], bs => .ok ([], bs)
  | t :: ts, bs =>
    (deserialize strict t bs).bind fun r =>
      (deserializeMany strict ts r.2).map fun q => (r.1 :: q.1, q.2)

/-- `from_slice` / `try_from_slice` -/
def fromSlice (strict : Bool) (t : Ty) (bs : Bytes) : Out Val :=
  (deserialize strict t bs).bind fun r =>
    if r.2.isEmpty then .ok r.1 else .err eNotAllBytesRead

/-- `deserialize_reader` over any reader -/
def deserializeReader {σ : Type} (rd : Rd σ) (strict : Bool) (t : Ty) (s : σ) : Out (Val × σ) :=
  de rd strict t s

/-- `from_reader` / `try_from_reader`: decode, then probe for exactly one more byte -/
def fromReader {σ : Type} (rd : Rd σ) (strict : Bool) (t : Ty) (s : σ) : Out (Val × σ) :=
  (de rd strict t s).bind fun r =>
    match rd.readExact 1 r.2 with
    | .err e => if e.kind = .unexpectedEof then .ok (r.1, r.2) else .err eNotAllBytesRead
    | .ok _ => .err eNotAllBytesRead
    | .panic p => .panic p

end Borsh
