/-
  The type universe `Ty` (shapes of Rust types that have Borsh impls) and the value
  universe `Val` (representations of their values).  Both are nested inductives over
  core `List`/`Prod`/`Option`, so mutual structural recursion through field lists is
  accepted and reduces in the kernel.
-/
import BorshModel.Basic
namespace Borsh

inductive IntK
  | u8 | u16 | u32 | u64 | u128 | i8 | i16 | i32 | i64 | i128 | usize | isize
  deriving DecidableEq, Repr, Inhabited

/-- width in bytes on the wire (usize/isize travel as 64-bit) -/
def IntK.width : IntK → Nat
  | .u8 | .i8 => 1
  | .u16 | .i16 => 2
  | .u32 | .i32 => 4
  | .u64 | .i64 | .usize | .isize => 8
  | .u128 | .i128 => 16

def IntK.signed : IntK → Bool
  | .i8 | .i16 | .i32 | .i64 | .i128 | .isize => true
  | _ => false

inductive FloatK | f32 | f64
  deriving DecidableEq, Repr, Inhabited

def FloatK.width : FloatK → Nat
  | .f32 => 4
  | .f64 => 8

/-- string-like types: all encode as `u32` length + bytes; they differ in the check on decode -/
inductive StrK | string | str | boxStr | cowStr | rcStr | asciiString | asciiStr
  deriving DecidableEq, Repr, Inhabited

def StrK.isAscii : StrK → Bool
  | .asciiString | .asciiStr => true
  | _ => false

/-- fixed-width raw byte blocks -/
inductive RawK | ipv4 | ipv6 | objectId
  deriving DecidableEq, Repr, Inhabited

def RawK.width : RawK → Nat
  | .ipv4 => 4
  | .ipv6 => 16
  | .objectId => 12

/-- length-prefixed sequences of one element type -/
inductive SeqK
  | vec | slice | boxSlice | cowSlice | rcSlice | vecDeque | linkedList
  | indexSet | bytes | bytesMut
  deriving DecidableEq, Repr, Inhabited

/-- does the *serializer* of this kind call `check_zst` on its element type? -/
def SeqK.serChecksZst : SeqK → Bool
  | .slice | .boxSlice | .cowSlice | .rcSlice | .bytes | .bytesMut => false
  | _ => true

/-- serializers that loop over an iterator: no `u8` fast path -/
def SeqK.noFastPath : SeqK → Bool
  | .indexSet | .linkedList => true
  | _ => false

/-- the `bytes` crate's buffers: the element type is `u8` by definition -/
def SeqK.isBytes : SeqK → Bool
  | .bytes | .bytesMut => true
  | _ => false

inductive SetK | hashSet | btreeSet
  deriving DecidableEq, Repr, Inhabited
inductive MapK | hashMap | btreeMap | indexMap
  deriving DecidableEq, Repr, Inhabited

/-- products: written field by field, no prefix -/
inductive ProdK
  | tuple | unit | rangeFull | phantom
  | range | rangeInclusive | rangeFrom | rangeTo | rangeToInclusive
  | sockV4 | sockV6
  | struct (name : Name) (init : Bool)
  deriving DecidableEq, Repr, Inhabited

/-- sums: one tag byte, then the fields of the variant -/
inductive SumK
  | option | result | ipAddr | sockAddr
  | derived (name : Name) (init : Bool)
  deriving DecidableEq, Repr, Inhabited

def SumK.tagK : SumK → TagK
  | .option => .option
  | .result => .result
  | .ipAddr => .ipAddr
  | .sockAddr => .sockAddr
  | .derived _ _ => .derived

inductive WrapK | ref | box | rc | arc | cell | refCell | cow
  deriving DecidableEq, Repr, Inhabited

/--
A field is `(name?, skip, type)`; a variant is `(name, tag, fields)`.  Written inline
because the occurrences of `Ty` must be nested under `List`/`Prod`.
-/
inductive Ty
  | int (k : IntK)
  | nonzero (k : IntK)
  | float (k : FloatK)
  | bool
  | str (k : StrK)
  | asciiChar
  | raw (k : RawK)
  | seq (k : SeqK) (t : Ty)
  | set (k : SetK) (t : Ty)
  | map (k : MapK) (key val : Ty)
  | array (n : Nat) (t : Ty)
  | prod (k : ProdK) (fs : List (Option Name × Bool × Ty))
  | sum (k : SumK) (vs : List (Name × Nat × List (Option Name × Bool × Ty)))
  | wrap (k : WrapK) (t : Ty)
  | custom (t : Ty)       -- a field under serialize_with/deserialize_with (fixture: big-endian u32)
  deriving Repr, Inhabited

abbrev Field := Option Name × Bool × Ty
abbrev Variant := Name × Nat × List Field

def Field.skip (f : Field) : Bool := f.2.1
def Field.ty (f : Field) : Ty := f.2.2

/-- Representations of values.  Integers of every width are `int`; floats are the `int`
of their bit pattern; strings and raw blocks are `blob`; sequences, arrays, tuples,
struct fields (skipped ones included), sets (iteration order) and maps (a list of
two-element lists, iteration order) are `list`; `VecDeque` is its two slices. -/
inductive Val
  | int (i : Int)
  | bool (b : Bool)
  | blob (bs : Bytes)
  | list (vs : List Val)
  | deque (front back : List Val)
  | variant (idx : Nat) (fields : List Val)
  deriving Repr, Inhabited

/-! ### constructors for the built-in sums -/

def sName (s : String) : Name := s.toUTF8.toList

def Ty.unit : Ty := .prod .unit []
def Ty.option (t : Ty) : Ty :=
  .sum .option [(sName "None", 0, []), (sName "Some", 1, [(none, false, t)])]
def Ty.result (ok err : Ty) : Ty :=
  .sum .result [(sName "Err", 0, [(none, false, err)]), (sName "Ok", 1, [(none, false, ok)])]
def Ty.tuple (ts : List Ty) : Ty := .prod .tuple (ts.map fun t => (none, false, t))

/-! ### decidable equality (deriving fails on nested inductives) -/

mutual
def Ty.beq : Ty → Ty → Bool
  | .int a, .int b => a == b
  | .nonzero a, .nonzero b => a == b
  | .float a, .float b => a == b
  | .bool, .bool => true
  | .str a, .str b => a == b
  | .asciiChar, .asciiChar => true
  | .raw a, .raw b => a == b
  | .seq k t, .seq k' t' => k == k' && Ty.beq t t'
  | .set k t, .set k' t' => k == k' && Ty.beq t t'
  | .map k a b, .map k' a' b' => k == k' && Ty.beq a a' && Ty.beq b b'
  | .array n t, .array n' t' => n == n' && Ty.beq t t'
  | .prod k fs, .prod k' fs' => k == k' && Ty.beqFields fs fs'
  | .sum k vs, .sum k' vs' => k == k' && Ty.beqVariants vs vs'
  | .wrap k t, .wrap k' t' => k == k' && Ty.beq t t'
  | .custom t, .custom t' => Ty.beq t t'
  | _, _ => false
def Ty.beqFields : List (Option Name × Bool × Ty) → List (Option Name × Bool × Ty) → Bool
  | [], [] => true
  | (n, s, t) :: fs, (n', s', t') :: fs' => n == n' && s == s' && Ty.beq t t' && Ty.beqFields fs fs'
  | _, _ => false
def Ty.beqVariants : List (Name × Nat × List (Option Name × Bool × Ty)) →
    List (Name × Nat × List (Option Name × Bool × Ty)) → Bool
  | [], [] => true
  | (n, g, fs) :: vs, (n', g', fs') :: vs' =>
      n == n' && g == g' && Ty.beqFields fs fs' && Ty.beqVariants vs vs'
  | _, _ => false
end

instance : BEq Ty := ⟨Ty.beq⟩

mutual
def Val.beq : Val → Val → Bool
  | .int a, .int b => a == b
  | .bool a, .bool b => a == b
  | .blob a, .blob b => a == b
  | .list a, .list b => Val.beqList a b
  | .deque a b, .deque a' b' => Val.beqList a a' && Val.beqList b b'
  | .variant i a, .variant j b => i == j && Val.beqList a b
  | _, _ => false
def Val.beqList : List Val → List Val → Bool
  | [], [] => true
  | a :: as, b :: bs => Val.beq a b && Val.beqList as bs
  | _, _ => false
end

instance : BEq Val := ⟨Val.beq⟩

/-- the element type is `u8` itself: the bulk fast paths apply (`u8_slice`, `vec_from_reader`,
`array_from_reader` are overridden for `u8` only) -/
def Ty.isU8 : Ty → Bool
  | .int .u8 => true
  | _ => false

def Ty.isU32 : Ty → Bool
  | .int .u32 => true
  | _ => false

end Borsh
