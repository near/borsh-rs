/-
  C05 — Encodings are self-delimiting: exact consumption, no trailing or truncated input.
-/
import BorshModel.Lemmas.Ext
import BorshModel.Theorems.C01
namespace Borsh

/-- The decoder never looks ahead: a successful decode is stable under appending to the
input, for **every** type of the universe (sets, maps and index collections included) and
both key-order modes. -/
theorem C05_extension (st : Bool) (t : Ty) (p s r : Bytes) (v : Val)
    (h : deserialize st t p = .ok (v, r)) :
    deserialize st t (p ++ s) = .ok (v, r ++ s) :=
  de_ext_all t st p v r s h

/-- Exact consumption: one value is read from the front of a buffer and exactly its bytes
are consumed. -/
theorem C05_exact_consumption_partial (st : Bool) (t : Ty) (v : Val) (bs rest : Bytes)
    (hp : keysOk t = true) (hw : WfTy t = true) (hv : HasTy t v = true) (he : toVec t v = .ok bs) :
    deserialize st t (bs ++ rest) = .ok (canon t v, rest) :=
  C01_roundtrip_stream_partial st t v bs rest hp hw hv he

/-- Values written back to back are read back in order by successive decodes. -/
theorem C05_stream_partial (st : Bool) :
    ∀ (tvs : List (Ty × Val × Bytes)) (rest : Bytes),
      (∀ x ∈ tvs, keysOk x.1 = true ∧ WfTy x.1 = true ∧ HasTy x.1 x.2.1 = true ∧
        toVec x.1 x.2.1 = .ok x.2.2) →
      deserializeMany st (tvs.map (·.1)) ((tvs.map (·.2.2)).flatten ++ rest) =
        .ok (tvs.map (fun x => canon x.1 x.2.1), rest) := by
  intro tvs
  induction tvs with
  | nil => intro rest _; rfl
  | cons x xs ih =>
    intro rest h
    obtain ⟨hp, hw, hv, he⟩ := h x List.mem_cons_self
    simp only [List.map_cons, List.flatten_cons, List.append_assoc, deserializeMany]
    rw [C01_roundtrip_stream_partial st x.1 x.2.1 x.2.2 _ hp hw hv he]
    simp only [Out.bind_ok]
    rw [ih rest fun y hy => h y (List.mem_cons_of_mem _ hy)]
    rfl

/-- Every whole-input entry point rejects bytes left over after the value. -/
theorem C05_trailing_rejected_partial (st : Bool) (t : Ty) (v : Val) (bs x : Bytes)
    (hp : keysOk t = true) (hw : WfTy t = true) (hv : HasTy t v = true) (he : toVec t v = .ok bs)
    (hx : x ≠ []) :
    fromSlice st t (bs ++ x) = .err eNotAllBytesRead :=
  fromSlice_of_rest (C01_roundtrip_stream_partial st t v bs x hp hw hv he) hx

/-- Every proper prefix of a valid encoding is rejected (by `deserialize`, hence by every
entry point built on it).  Needs no bijectivity: it follows from extension + exact consumption. -/
theorem C05_prefix_rejected_partial (st : Bool) (t : Ty) (v : Val) (p q : Bytes)
    (hp : keysOk t = true) (hw : WfTy t = true) (hv : HasTy t v = true)
    (he : toVec t v = .ok (p ++ q)) (hq : q ≠ []) :
    (deserialize st t p).isOk = false := by
  rw [prefix_rejected (fromSlice_eq_ok_iff.mp (C01_roundtrip_partial t hp hw st v _ hv he)) hq]
  rfl

/-- non-vacuity of the extension theorem on a set type under strict order -/
example :
    (deserialize true (.set .btreeSet (.int .u8)) [2, 0, 0, 0, 3, 9]).okValRest (.list [.int 3, .int 9]) []
      && (deserialize true (.set .btreeSet (.int .u8)) ([2, 0, 0, 0, 3, 9] ++ [7, 7])).okValRest
        (.list [.int 3, .int 9]) [7, 7] = true := by
  decide

end Borsh
