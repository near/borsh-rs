/-
  C15 — Array decoding neither leaks nor double-drops under failure at any element.
-/
import BorshModel.ArrayGuard
namespace Borsh

/-- the invariant of the fill loop: exactly the first `initCount` slots are initialised, with
their own index, and the events so far are the constructions `0 … initCount-1` in order -/
structure FillInv (N : Nat) (g : Guard) (evs : List Ev) : Prop where
  len : g.slots.length = N
  le : g.initCount ≤ N
  slots : g.slots = (List.range g.initCount).map some ++ List.replicate (N - g.initCount) none
  evs : evs = (List.range g.initCount).map Ev.construct

theorem fillInv_init (N : Nat) : FillInv N ⟨List.replicate N none, 0⟩ [] :=
  ⟨by simp, Nat.zero_le _, by simp, by simp⟩

theorem set_step (N k : Nat) (h : k < N) :
    ((List.range k).map some ++ List.replicate (N - k) none).set k (some k) =
      (List.range (k + 1)).map some ++ List.replicate (N - (k + 1)) (none : Option Nat) := by
  rw [← Nat.succ_pred_eq_of_pos (Nat.sub_pos_of_lt h), List.replicate_succ, Nat.sub_succ]
  simp [List.range_succ]

theorem fillBuffer_spec (plan : Nat → ElemResult) (N : Nat) :
    ∀ (n : Nat) (g : Guard) (evs : List Ev), FillInv N g evs → g.initCount + n = N →
      (∀ i < g.initCount, plan i = .ok) →
      FillInv N (fillBuffer plan n g evs).1 (fillBuffer plan n g evs).2.1 ∧
      (∀ i < (fillBuffer plan n g evs).1.initCount, plan i = .ok) ∧
      ((fillBuffer plan n g evs).2.2 = .ok → (fillBuffer plan n g evs).1.initCount = N) ∧
      ((fillBuffer plan n g evs).2.2 ≠ .ok →
        (fillBuffer plan n g evs).1.initCount < N ∧
        plan (fillBuffer plan n g evs).1.initCount = (fillBuffer plan n g evs).2.2) := by
  intro n
  induction n with
  | zero => exact fun g evs hinv hn hok => ⟨hinv, hok, fun _ => hn, fun h => absurd rfl h⟩
  | succ n ih =>
    intro g evs hinv hn hok
    have hlt : g.initCount < N := hn ▸ Nat.lt_add_of_pos_right (Nat.succ_pos n)
    rw [fillBuffer]
    cases hp : plan g.initCount with
    | ok =>
      refine ih _ _ ⟨?_, hlt, ?_, ?_⟩ (by rw [← hn, Nat.add_assoc, Nat.add_comm 1 n]) fun i hi => ?_
      · rw [List.length_set, hinv.len]
      · simp only
        rw [hinv.slots]; exact set_step N g.initCount hlt
      · simp only
        rw [hinv.evs, List.range_succ, List.map_append]; rfl
      · rcases Nat.lt_succ_iff_lt_or_eq.mp hi with h | h
        · exact hok i h
        · exact h ▸ hp
    | _ => exact ⟨hinv, hok, nofun, fun _ => ⟨hlt, hp⟩⟩

theorem mapIdx_init (n : Nat) {h : Nat → Option Nat → Ev} {F : Nat → Ev}
    (hF : ∀ i v, h i (some v) = F i) : ((List.range n).map some).mapIdx h = (List.range n).map F := by
  apply List.ext_getElem
  · simp
  · intro i h1 h2
    simp [hF]

theorem dropEvents_of_inv {N : Nat} {g : Guard} {evs : List Ev} (h : FillInv N g evs) :
    g.dropEvents = (List.range g.initCount).map Ev.dropElem := by
  rw [Guard.dropEvents, h.slots, List.take_left' (by simp), mapIdx_init _ fun _ _ => rfl]

/-- **The run in closed form.**  The loop stops at the first position `c` that does not decode, or at
`N`: the elements before `c` were constructed, in order, and then released, in order — handed over if
the loop came through, dropped by the guard if not. -/
theorem arrayRun_closed (N : Nat) (plan : Nat → ElemResult) :
    ∃ c, c ≤ N ∧ (∀ i < c, plan i = .ok) ∧ (c < N → plan c ≠ .ok) ∧
      arrayRun N plan =
        ((List.range c).map .construct ++ (List.range c).map (if c = N then .handOver else .dropElem),
          if c = N then .returned else if plan c = .err then .failed else .unwound) := by
  obtain ⟨hinv, hok, hfin, hstop⟩ := fillBuffer_spec plan N N ⟨List.replicate N none, 0⟩ []
    (fillInv_init N) (Nat.zero_add N) (fun i hi => absurd hi (Nat.not_lt_zero i))
  have hd := dropEvents_of_inv hinv
  rcases hr : fillBuffer plan N ⟨List.replicate N none, 0⟩ [] with ⟨g, evs, st⟩
  simp only [hr] at hinv hok hfin hstop hd
  simp only [arrayRun, hr, hinv.evs, hd]
  refine ⟨g.initCount, hinv.le, hok, ?_⟩
  cases st with
  | ok =>
    have hc : g.initCount = N := hfin rfl
    refine ⟨fun h => absurd hc (Nat.ne_of_lt h), ?_⟩
    simp only [transmute, Guard.dropEvents, List.take_zero, List.mapIdx_nil, List.append_nil]
    rw [hinv.slots, hc, Nat.sub_self, List.replicate_zero, List.append_nil,
      mapIdx_init _ fun _ _ => rfl, if_pos rfl, if_pos rfl]
  | err =>
    obtain ⟨hlt, hp⟩ := hstop nofun
    exact ⟨fun _ => hp ▸ nofun, by rw [if_neg (Nat.ne_of_lt hlt), if_neg (Nat.ne_of_lt hlt), if_pos hp]⟩
  | panic =>
    obtain ⟨hlt, hp⟩ := hstop nofun
    exact ⟨fun _ => hp ▸ nofun,
      by rw [if_neg (Nat.ne_of_lt hlt), if_neg (Nat.ne_of_lt hlt), if_neg (hp ▸ nofun)]⟩

/-- the plan determines where the loop stops -/
theorem stop_unique {plan : Nat → ElemResult} {N a b : Nat}
    (ha : a ≤ N) (ha1 : ∀ i < a, plan i = .ok) (ha2 : a < N → plan a ≠ .ok)
    (hb : b ≤ N) (hb1 : ∀ i < b, plan i = .ok) (hb2 : b < N → plan b ≠ .ok) : a = b := by
  rcases Nat.lt_trichotomy a b with h | h | h
  · exact absurd (hb1 a h) (ha2 (Nat.lt_of_lt_of_le h hb))
  · exact h
  · exact absurd (ha1 b h) (hb2 (Nat.lt_of_lt_of_le h ha))

/-- **Failure at position `k`** (error return or panic): exactly the elements `0 … k-1` were
constructed, each is dropped exactly once, in index order; element `k` is never constructed,
nothing is handed over, nothing uninitialised is touched. -/
theorem C15_failure_at_k (N : Nat) (plan : Nat → ElemResult) (k : Nat) (hk : k < N)
    (hbefore : ∀ i < k, plan i = .ok) (hfail : plan k ≠ .ok) :
    (arrayRun N plan).1 = (List.range k).map Ev.construct ++ (List.range k).map Ev.dropElem ∧
    (arrayRun N plan).2 = (if plan k = .err then .failed else .unwound) := by
  obtain ⟨c, hc, hb, hs, h⟩ := arrayRun_closed N plan
  obtain rfl : c = k := stop_unique hc hb hs (Nat.le_of_lt hk) hbefore fun _ => hfail
  rw [h, if_neg (Nat.ne_of_lt hk), if_neg (Nat.ne_of_lt hk)]
  exact ⟨rfl, rfl⟩

/-- **Success**: every element is constructed once and handed to the caller once; the guard
drops nothing (its count was reset), nothing uninitialised is touched. -/
theorem C15_success (N : Nat) (plan : Nat → ElemResult) (hall : ∀ i < N, plan i = .ok) :
    (arrayRun N plan).1 = (List.range N).map Ev.construct ++ (List.range N).map Ev.handOver ∧
    (arrayRun N plan).2 = .returned := by
  obtain ⟨c, hc, hb, hs, h⟩ := arrayRun_closed N plan
  obtain rfl : c = N := stop_unique hc hb hs (Nat.le_refl _) hall fun h => absurd h (Nat.lt_irrefl _)
  rw [h, if_pos rfl, if_pos rfl]
  exact ⟨rfl, rfl⟩

/-- nothing uninitialised is ever read or dropped, whatever the plan -/
theorem C15_no_uninit_touch (N : Nat) (plan : Nat → ElemResult) :
    ∀ i, Ev.touchUninit i ∉ (arrayRun N plan).1 := by
  intro i
  obtain ⟨c, _, _, _, h⟩ := arrayRun_closed N plan
  rw [h]
  split <;> simp

theorem count_same {f : Nat → Ev} (hf : ∀ a b, f a = f b → a = b) (i n : Nat) :
    ((List.range n).map f).count (f i) = if i < n then 1 else 0 := by
  rw [← List.count_range, List.count_eq_countP, List.count_eq_countP, List.countP_map]
  congr 1; funext a
  show (f a == f i) = (a == i)
  rw [Bool.eq_iff_iff, beq_iff_eq, beq_iff_eq]
  exact ⟨hf a i, congrArg f⟩

theorem count_other {f : Nat → Ev} {e : Ev} (h : ∀ a, f a ≠ e) (l : List Nat) : (l.map f).count e = 0 :=
  List.count_eq_zero.mpr fun hm => let ⟨a, _, ha⟩ := List.mem_map.mp hm; h a ha

/-- every constructed element is released exactly once (dropped by the guard or handed to the
caller), whatever the plan -/
theorem C15_exactly_once (N : Nat) (plan : Nat → ElemResult) (i : Nat) :
    ((arrayRun N plan).1.count (.construct i)) =
      ((arrayRun N plan).1.count (.dropElem i)) + ((arrayRun N plan).1.count (.handOver i)) := by
  obtain ⟨c, _, _, _, h⟩ := arrayRun_closed N plan
  rw [h]
  simp only [List.count_append]
  rw [count_same (fun _ _ => Ev.construct.inj), count_other (f := .construct) (e := .dropElem i) nofun,
    count_other (f := .construct) (e := .handOver i) nofun]
  by_cases hc : c = N
  · rw [if_pos hc, count_other (f := .handOver) (e := .construct i) nofun,
      count_other (f := .handOver) (e := .dropElem i) nofun, count_same fun _ _ => Ev.handOver.inj]
    simp only [Nat.zero_add, Nat.add_zero]
  · rw [if_neg hc, count_other (f := .dropElem) (e := .construct i) nofun,
      count_same (fun _ _ => Ev.dropElem.inj), count_other (f := .dropElem) (e := .handOver i) nofun]
    simp only [Nat.zero_add, Nat.add_zero]

/-- non-vacuity: N = 5, error at 3; N = 4 panic at 0; N = 3 success -/
example :
    (arrayRun 5 (fun i => if i == 3 then .err else .ok) ==
      ([.construct 0, .construct 1, .construct 2, .dropElem 0, .dropElem 1, .dropElem 2], .failed)) &&
    (arrayRun 4 (fun _ => .panic) == ([], .unwound)) &&
    (arrayRun 3 (fun _ => .ok) ==
      ([.construct 0, .construct 1, .construct 2, .handOver 0, .handOver 1, .handOver 2], .returned)) = true := by
  decide

/-- a destructor that unwinds during the guard's cleanup changes how the call ends, not which
elements are released: every constructed element is still dropped exactly once (what the code relies
on is the drop glue of slices; a hand-written loop over the prefix would stop at the first unwinding
destructor - seeded change C15e) -/
theorem C15_exactly_once_with_unwinding_destructor (N : Nat) (plan : Nat → ElemResult) (j i : Nat) :
    ((arrayRunDropPanic N plan j).1.count (.construct i)) =
      ((arrayRunDropPanic N plan j).1.count (.dropElem i)) +
      ((arrayRunDropPanic N plan j).1.count (.handOver i)) :=
  C15_exactly_once N plan i

example :
    (arrayRunDropPanic 5 (fun i => if i == 3 then .err else .ok) 1 ==
      ([.construct 0, .construct 1, .construct 2, .dropElem 0, .dropElem 1, .dropElem 2], .unwound)) &&
    (arrayRunDropPanic 5 (fun i => if i == 3 then .err else .ok) 4 ==
      ([.construct 0, .construct 1, .construct 2, .dropElem 0, .dropElem 1, .dropElem 2], .failed)) = true := by
  decide

end Borsh
