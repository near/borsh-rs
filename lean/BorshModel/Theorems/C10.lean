/-
  C10 — Schema validation is total and flags exactly the ill-formed containers.
-/
import BorshModel.SchemaCodec
import BorshModel.Lemmas.Totality
import BorshModel.Lemmas.ValidateSound
import BorshModel.Lemmas.ValidateIff
namespace Borsh

/-- "a legal length width (0, 1, 2, 4 or 8 bytes and wide enough for the largest length)":
`check_length_width` succeeds exactly then -/
theorem C10_length_width_iff (d : Name) (w max : Nat) (hmax : max < 2 ^ 64) :
    checkLengthWidth d w max = .ok () ↔
      (w = 0 ∨ w = 8 ∨ ((w = 1 ∨ w = 2 ∨ w = 4) ∧ max < 2 ^ (w * 8))) :=
  (checkLengthWidth_ok_iff d w max).trans (lengthWidthOk_iff w max)

/-- when it fails, the error names the declaration that was checked and the defect is real -/
theorem C10_length_width_defect (d : Name) (w max : Nat) (e : ValErr)
    (h : checkLengthWidth d w max = .error e) :
    (e = .tagNotPowerOfTwo d ∧ (w = 3 ∨ w = 5 ∨ w = 6 ∨ w = 7)) ∨
    (e = .tagTooNarrow d ∧ (w = 1 ∨ w = 2 ∨ w = 4) ∧ 2 ^ (w * 8) ≤ max) ∨
    (e = .tagTooWide d ∧ 8 < w) :=
  checkLengthWidth_error h

/-- validation never takes `RangeInclusive::count()`: a fixed-length sequence is recognised by
comparing the bounds, which cannot panic — finding F3 (repaired), on the witness container -/
theorem C10_F3_full_range_no_panic :
    (Container.validate ⟨[65], [([65], .sequence 0 0 (2 ^ 64 - 1) [117]), ([117], .primitive 1)]⟩) = .ok () := by
  decide +kernel

/-- Finding F2 (repaired): a tuple holding the same zero-length array twice is zero-sized, so a
dynamic sequence of it is flagged (`Vec<([(); 0], [(); 0])>`) -/
theorem C10_F2_repeated_zero_sized_member :
    (Container.validate ⟨[65],
      [([40, 41], .primitive 0), ([65], .sequence 4 0 (2 ^ 32 - 1) [66]),
       ([66], .tuple [[90], [90]]), ([90], .sequence 0 0 0 [40, 41])]⟩) = .error (.zstSequence [65]) := by
  decide +kernel

/-- a root declaration without a definition is reported with its name -/
theorem C10_missing_root (c : Container) (h : c.get c.decl = none) :
    c.validate = .error (.missing c.decl) := by
  rw [Container.validate, validateImpl_step, h]

/-- non-vacuity: each class of defect on a small container -/
example :
    (Container.validate ⟨[65], [([65], .sequence 4 3 2 [117]), ([117], .primitive 1)]⟩ = .error (.emptyLengthRange [65])) ∧
    (Container.validate ⟨[65], [([65], .sequence 3 0 1 [117]), ([117], .primitive 1)]⟩ = .error (.tagNotPowerOfTwo [65])) ∧
    (Container.validate ⟨[65], [([65], .sequence 1 0 256 [117]), ([117], .primitive 1)]⟩ = .error (.tagTooNarrow [65])) ∧
    (Container.validate ⟨[65], [([65], .enum 9 [])]⟩ = .error (.tagTooWide [65])) ∧
    (Container.validate ⟨[65], [([65], .tuple [[65]])]⟩ = .ok ()) := by
  decide +kernel

/-- **Validation is total**: on every container it terminates with `Ok` or one of its errors,
never a panic.  The model's panic sites here are the two fuel checks, of `validateImpl` and of the
zero-size analysis it calls; running out of fuel stands for recursion without end (a stack overflow
on a cycle).  `RangeInclusive::count()`, which can panic, is not called (`C10_F3_full_range_no_panic`). -/
theorem C10_never_panics (c : Container) : c.validate.isPanic = false :=
  validateImpl_noPanic c (c.defs.length + 1) c.decl [] (pathOk_nil c) (Nat.le_add_left _ _)

/-- the zero-size analysis used by validation is total too, from any declaration -/
theorem C10_zero_size_never_panics (c : Container) (d : Name) :
    (isZeroSize c (c.defs.length + 1) d []).isPanic = false :=
  isZeroSize_noPanic c _ d [] (.nil c)

/-- **When validation fails, the reported error names a declaration that really has that
defect** (every container): a `missing` name is absent from the definitions; an
`emptyLengthRange`, `tagNotPowerOfTwo`, `tagTooNarrow`, `tagTooWide` or `zstSequence` error names
a dynamically sized sequence (or, for `tagTooWide`, an enum) whose own definition has exactly
that fault. -/
theorem C10_error_is_real (c : Container) (e : ValErr) (h : c.validate = .error e) :
    localDefect c e :=
  validateImpl_error_real c _ c.decl [] e h

/-- a missing-definition error from the zero-size analysis names an absent declaration -/
theorem C10_zero_size_missing_is_real (c : Container) (d m : Name)
    (h : isZeroSize c (c.defs.length + 1) d [] = .error (.missing m)) : c.get m = none :=
  (isZeroSize_missing_at c _ d [] m h).1

/-- **Validation succeeds if and only if the container is well-formed**: every declaration
reachable from the root is defined, every dynamically sized sequence has a non-empty length range,
a legal length width (0, 1, 2, 4 or 8 bytes, wide enough for the largest length) and elements that
are not zero-sized (no finite derivation of zero-sizedness; a cycle is not zero-sized), and every
enum tag is at most eight bytes wide — for **every** container, hostile ones included. -/
theorem C10_validate_ok_iff_wellformed (c : Container) : c.validate = .ok () ↔ WellFormed c :=
  validate_ok_iff c

/-- the zero-size analysis answers `Ok(true)` exactly on the declarations that have a finite
derivation of zero-sizedness -/
theorem C10_zero_size_iff (c : Container) (d : Name) :
    isZeroSize c (c.defs.length + 1) d [] = .ok true ↔ ZeroSized c d :=
  isZeroSize_iff c d

/-- non-vacuity: a well-formed container with a cycle through a tuple, and an ill-formed one whose
defect sits behind a zero-length array (so is still reachable) -/
example :
    (Container.validate ⟨[65], [([65], .tuple [[65], [117]]), ([117], .primitive 1)]⟩ = .ok ()) ∧
    (Container.validate ⟨[65], [([65], .sequence 0 0 0 [66]), ([66], .enum 9 [])]⟩
        = .error (.tagTooWide [66])) := by
  decide +kernel

end Borsh
