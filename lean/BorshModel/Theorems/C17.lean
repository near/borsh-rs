/-
  C17 — Schema-prefixed encoding round-trips and rejects a foreign schema.
-/
import BorshModel.SchemaOf
import BorshModel.Lemmas.ContainerCodec
import BorshModel.Lemmas.AddDefs
import BorshModel.Theorems.C05
namespace Borsh

theorem Res.toOut_eq_ok {α : Type} {r : Res Unit α} {a : α} (h : r.toOut = .ok a) : r = .ok a := by
  cases r <;> cases h; rfl

/-- the schema-prefixed reader is the container's decode, then `from_slice` on what follows, then
the comparison of the two schemas -/
theorem tryFromSliceWithSchema_eq (st : Bool) (u : Ty) (bs : Bytes) :
    tryFromSliceWithSchema st u bs =
      (deserialize st containerTy bs).bind fun r => (fromSlice st u r.2).bind fun x =>
        (schemaOf u).toOut.bind fun cu =>
          if containerOfVal r.1 == some cu then .ok x else .err ⟨.invalidData, .schemaMismatch⟩ := by
  unfold tryFromSliceWithSchema fromSlice
  congr 1; funext r
  cases deserialize st u r.2 with
  | ok q => obtain ⟨x, _ | _⟩ := q <;> rfl
  | err e => rfl
  | panic p => rfl

/-- Acceptance implies equal schemas: whenever `try_from_slice_with_schema::<U>` accepts, the
bytes start with the encoding of a container that **equals** `U`'s own schema, the value follows,
and nothing is left.  Read contrapositively: a foreign schema, or any corruption of the embedded
schema that changes its meaning, is rejected. -/
theorem C17_accept_implies_same_schema (st : Bool) (u : Ty) (bs : Bytes) (x : Val)
    (h : tryFromSliceWithSchema st u bs = .ok x) :
    ∃ cv rest cu, deserialize st containerTy bs = .ok (cv, rest) ∧
      deserialize st u rest = .ok (x, []) ∧
      schemaOf u = .ok cu ∧ containerOfVal cv = some cu := by
  rw [tryFromSliceWithSchema_eq] at h
  obtain ⟨⟨cv, rest⟩, h1, h2⟩ := Out.bind_eq_ok_iff.mp h
  obtain ⟨y, h3, h4⟩ := Out.bind_eq_ok_iff.mp h2
  obtain ⟨cu, h5, h6⟩ := Out.bind_eq_ok_iff.mp h4
  split at h6
  · rename_i heq
    cases h6
    exact ⟨cv, rest, cu, h1, fromSlice_eq_ok_iff.mp h3, Res.toOut_eq_ok h5, eq_of_beq heq⟩
  · cases h6

/-- a schema mismatch is reported with the dedicated error, never silently accepted -/
theorem C17_mismatch_rejected (st : Bool) (u : Ty) (bs rest : Bytes) (cv x : Val) (cu : Container)
    (h1 : deserialize st containerTy bs = .ok (cv, rest))
    (h2 : deserialize st u rest = .ok (x, []))
    (hs : schemaOf u = .ok cu) (hne : containerOfVal cv ≠ some cu) :
    tryFromSliceWithSchema st u bs = .err ⟨.invalidData, .schemaMismatch⟩ := by
  rw [tryFromSliceWithSchema_eq, h1]
  simp only [Out.bind_ok, fromSlice_eq_ok_iff.mpr h2, hs, Res.toOut]
  exact if_neg (by simpa using hne)

theorem tryToVecWithSchema_split (u : Ty) (v : Val) (bs : Bytes) (cu : Container)
    (hs : schemaOf u = .ok cu) (he : tryToVecWithSchema u v = .ok bs) :
    ∃ cb vb, containerBytes cu = .ok cb ∧ toVec u v = .ok vb ∧ bs = cb ++ vb := by
  unfold tryToVecWithSchema at he
  simp only [hs, Res.toOut, Out.bind_ok] at he
  obtain ⟨cb, hcb, h2⟩ := Out.bind_eq_ok_iff.mp he
  obtain ⟨vb, hvb, rfl⟩ := Out.map_eq_ok_iff.mp h2
  exact ⟨cb, vb, hcb, hvb, rfl⟩

theorem deserialize_container (st : Bool) (c : Container) (cb r : Bytes)
    (hc : HasTy containerTy (containerToVal c) = true) (hcb : containerBytes c = .ok cb) :
    deserialize st containerTy (cb ++ r) = .ok (containerToVal c, r) := by
  rw [C01_roundtrip_stream_partial st containerTy (containerToVal c) cb r
    keysOk_containerTy WfTy_containerTy hc hcb, canon_container c hc]

theorem tryFromSliceWithSchema_after (st : Bool) (u : Ty) (c : Container) (cb r : Bytes)
    (hc : HasTy containerTy (containerToVal c) = true) (hcb : containerBytes c = .ok cb) :
    tryFromSliceWithSchema st u (cb ++ r) =
      (fromSlice st u r).bind fun x => (schemaOf u).toOut.bind fun cu =>
        if some c == some cu then .ok x else .err ⟨.invalidData, .schemaMismatch⟩ := by
  rw [tryFromSliceWithSchema_eq, deserialize_container st c cb r hc hcb]
  simp only [Out.bind_ok, containerOfVal_toVal]

/-- Round trip through the schema-prefixed entry points: what `try_to_vec_with_schema` writes,
`try_from_slice_with_schema` at the same type accepts and returns the (canonical) value, in both
key-order modes.  `hc` says the type's own container is representable on the wire (names are
UTF-8, definitions ascending by name, widths fit their fields) — a decidable fact about `u`,
discharged by evaluation in the example below and checked per type by the C17 workload.
`_partial` for the same reason as C01 (`keysOk`). -/
theorem C17_roundtrip_partial (st : Bool) (u : Ty) (v : Val) (bs : Bytes) (cu : Container)
    (hk : keysOk u = true) (hw : WfTy u = true) (hv : HasTy u v = true)
    (hs : schemaOf u = .ok cu) (hc : HasTy containerTy (containerToVal cu) = true)
    (he : tryToVecWithSchema u v = .ok bs) :
    tryFromSliceWithSchema st u bs = .ok (canon u v) := by
  obtain ⟨cb, vb, hcb, hvb, rfl⟩ := tryToVecWithSchema_split u v bs cu hs he
  rw [tryFromSliceWithSchema_after st u cu cb vb hc hcb, C01_roundtrip_partial u hk hw st v vb hv hvb]
  simp [hs, Res.toOut]

/-- **The schema-prefixed reader is a whole-input entry point** (C05 for it): bytes left over after
the value are rejected with the not-all-bytes-read error, whatever they are. -/
theorem C17_with_schema_trailing_rejected_partial (st : Bool) (u : Ty) (v : Val) (bs x : Bytes)
    (cu : Container) (hk : keysOk u = true) (hw : WfTy u = true) (hv : HasTy u v = true)
    (hs : schemaOf u = .ok cu) (hc : HasTy containerTy (containerToVal cu) = true)
    (he : tryToVecWithSchema u v = .ok bs) (hx : x ≠ []) :
    tryFromSliceWithSchema st u (bs ++ x) = .err eNotAllBytesRead := by
  obtain ⟨cb, vb, hcb, hvb, rfl⟩ := tryToVecWithSchema_split u v bs cu hs he
  rw [List.append_assoc, tryFromSliceWithSchema_after st u cu cb _ hc hcb,
    C05_trailing_rejected_partial st u v vb x hk hw hv hvb hx]
  rfl

/-- Every proper prefix of a schema-prefixed blob is rejected (cut inside the embedded schema or
inside the value alike). -/
theorem C17_with_schema_prefix_rejected_partial (st : Bool) (u : Ty) (v : Val) (p q : Bytes)
    (cu : Container) (hk : keysOk u = true) (hw : WfTy u = true) (hv : HasTy u v = true)
    (hs : schemaOf u = .ok cu) (hc : HasTy containerTy (containerToVal cu) = true)
    (he : tryToVecWithSchema u v = .ok (p ++ q)) (hq : q ≠ []) :
    (tryFromSliceWithSchema st u p).isOk = false := by
  cases hr : tryFromSliceWithSchema st u p with
  | err e => rfl
  | panic s => rfl
  | ok x =>
    obtain ⟨cv, rest, _, h1, h2, _⟩ := C17_accept_implies_same_schema st u p x hr
    obtain ⟨cb, vb, hcb, hvb, hsplit⟩ := tryToVecWithSchema_split u v (p ++ q) cu hs he
    -- extended by `q`, the container decode is that of the whole blob: `rest ++ q` is the value's encoding
    have e1 := C05_extension st containerTy p q rest cv h1
    rw [hsplit, deserialize_container st cu cb vb hc hcb] at e1
    injection e1 with e1
    injection e1 with _ e1
    subst e1
    -- so the value decoder accepted a proper prefix of it
    rw [prefix_rejected (fromSlice_eq_ok_iff.mp (C01_roundtrip_partial u hk hw st v _ hv hvb)) hq] at h2
    cases h2

/-- **The schema-prefixed reader is safe on untrusted bytes** (C07 / C16 for it): for every byte
string — hostile embedded schemas included — it answers without a panic, and every refusal has kind
InvalidData.  (The reader's own schema is generated once from the Rust type; `hs` says that
generation succeeds, which does not depend on the input.)  The embedded container is only ever
*decoded and compared*: the model has no call of `validate` or `max_serialized_size` on it. -/
theorem C17_with_schema_safe (st : Bool) (u : Ty) (bs : Bytes) (cu : Container)
    (hs : schemaOf u = .ok cu) :
    (tryFromSliceWithSchema st u bs).isPanic = false ∧
    ∀ e, tryFromSliceWithSchema st u bs = .err e → e.kind = .invalidData := by
  have h : (tryFromSliceWithSchema st u bs).safe := by
    rw [tryFromSliceWithSchema_eq, hs]
    refine (de_safe_all containerTy st bs).bind fun r => (fromSlice_safe st u r.2).bind fun x => ?_
    show Out.safe (if _ then _ else _)
    split
    · exact trivial
    · exact rfl
  exact ⟨h.not_panic, fun e he => h.kind he⟩

/-- **A foreign schema is rejected**: what `try_to_vec_with_schema::<T>` wrote is never accepted
by `try_from_slice_with_schema::<U>` when the two types' schemas differ — whatever the value, even
when `U` can decode `T`'s value bytes (same width, same shape), in both key-order modes. -/
theorem C17_foreign_rejected (st : Bool) (t u : Ty) (v : Val) (bs : Bytes) (ct cu : Container)
    (hst : schemaOf t = .ok ct) (hsu : schemaOf u = .ok cu) (hne : ct ≠ cu)
    (hc : HasTy containerTy (containerToVal ct) = true)
    (he : tryToVecWithSchema t v = .ok bs) :
    (tryFromSliceWithSchema st u bs).isOk = false := by
  obtain ⟨cb, vb, hcb, _, rfl⟩ := tryToVecWithSchema_split t v bs ct hst he
  rw [tryFromSliceWithSchema_after st u ct cb vb hc hcb]
  cases fromSlice st u vb <;> simp [hsu, Res.toOut, hne, Out.isOk]

/-- **Containers round-trip to an equal container**: every container whose `Val` form is well typed
(UTF-8 names, definitions in ascending name order, widths that fit their fields) — hostile ones
included — is read back as the very same container, and nothing is left -/
theorem C17_container_roundtrip (st : Bool) (c : Container) (bs rest : Bytes)
    (hc : HasTy containerTy (containerToVal c) = true) (he : containerBytes c = .ok bs) :
    (deserialize st containerTy (bs ++ rest)).map (fun r => (containerOfVal r.1, r.2)) =
      .ok (some c, rest) := by
  rw [deserialize_container st c bs rest hc he]
  simp only [Out.map_ok, containerOfVal_toVal]

/-- **Containers are canonical**: the definitions of the container `for_type` generates are in
strictly ascending name order — for every type with a schema, derived structs and enums (with the
derive's "already present" shortcut) included; the container serializer writes them in that order -/
theorem C17_container_canonical (t : Ty) (c : Container) (h : schemaOf t = .ok c) :
    c.defs.Pairwise (fun a b => cmpBytes a.1 b.1 = .lt) := by
  obtain ⟨m, h1, rfl⟩ := schemaOf_ok h
  exact (pres_all t [] m List.Pairwise.nil h1).1

/-- `add_definitions_recursively` only ever adds: a definition present before a call is present,
unchanged, after it (every type) -/
theorem C17_definitions_only_added (t : Ty) (m m' : Defs) (hs : DSorted m) (h : addDefs t m = .ok m')
    (d : Name) (df : Defn) (hd : dget m d = some df) : dget m' d = some df :=
  (pres_all t m m' hs h).2 d df hd

/-- `insertDef` places a new name in ascending byte order: the head of the result is the smaller
of the new name and the old head -/
theorem C17_insert_sorted_head (d : Name) (df : Defn) (k : Name) (v : Defn) (rest m' : Defs)
    (h : insertDef d df ((k, v) :: rest) = .ok m') :
    (cmpBytes d k = .lt → m' = (d, df) :: (k, v) :: rest) ∧
    (cmpBytes d k = .gt → ∃ r, m' = (k, v) :: r) := by
  rw [insertDef] at h
  constructor
  · intro hlt
    rw [hlt] at h
    exact (Res.ok.inj h).symm
  · intro hgt
    rw [hgt] at h
    obtain ⟨r, _, h⟩ := Res.bind_eq_ok h
    exact ⟨r, (Res.ok.inj h).symm⟩

/-- non-vacuity of `C17_roundtrip_partial`'s hypotheses at a nested keyed type -/
example :
    let u := Ty.map .hashMap (.str .string) (.seq .vec (.int .u16))
    (keysOk u && WfTy u &&
      (match schemaOf u with
       | .ok cu => HasTy containerTy (containerToVal cu)
       | _ => false)) = true := by
  decide +kernel

/-- non-vacuity / regression: writing `u8` and reading `i8` (same width, different schema) is
rejected; reading `u8` back is accepted; the container of a nested type lists its definitions in
ascending name order -/
example :
    ((tryToVecWithSchema (.int .u8) (.int 7)).bind (tryFromSliceWithSchema false (.int .i8))).errIs
        ⟨.invalidData, .schemaMismatch⟩ &&
    ((tryToVecWithSchema (.int .u8) (.int 7)).bind (tryFromSliceWithSchema false (.int .u8))).okVal (.int 7) &&
    (match schemaOf (.seq .vec (Ty.sum .option [([78], 0, []), ([83], 1, [(none, false, .int .u8)])])) with
     | .ok c => c.defs.map (·.1) == [[40, 41], [79, 112, 116, 105, 111, 110, 60, 117, 56, 62],
         [86, 101, 99, 60, 79, 112, 116, 105, 111, 110, 60, 117, 56, 62, 62], [117, 56]]
     | _ => false) = true := by
  decide +kernel

end Borsh
