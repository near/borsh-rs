/-
  C13 — std and no_std builds are observably equivalent.

  The codec model (`ser`, `de`, `toVec`, `fromSlice`) has no io parameter at all: both builds
  compile the same borsh source and are described by the same functions; what differs is the io
  facade, which is modelled twice and proved equivalent here.
-/
import BorshModel.IoOps
import BorshModel.Io
namespace Borsh

/-- `Read for &[u8]`: the shim behaves like std::io for every sequence of reads -/
theorem C13_reader_equiv (ops : List IoOp) (s : Bytes) :
    NoStd.readerOps ops s = Std.readerOps ops s := by
  induction ops generalizing s with
  | nil => rfl
  | cons op ops ih =>
    cases op with
    | read n =>
      simp only [NoStd.readerOps, Std.readerOps, ← List.take_eq_take_min, ← List.drop_eq_drop_min, ih]
    | readExact n =>
      simp only [NoStd.readerOps, Std.readerOps]
      by_cases h : n ≤ s.length
      · rw [if_pos h, if_neg (Nat.not_lt.mpr h), ih]
      · rw [if_neg h, if_pos (Nat.lt_of_not_le h)]
        rfl
    | _ => simp only [NoStd.readerOps, Std.readerOps, ih]

/-- `Write for &mut [u8]`: same for every sequence of writes, full buffers included -/
theorem C13_slice_writer_equiv (ops : List IoOp) (st : Bytes × Nat) :
    NoStd.sliceWriterOps ops st = Std.sliceWriterOps ops st := by
  induction ops generalizing st with
  | nil => rfl
  | cons op ops ih =>
    obtain ⟨w, room⟩ := st
    cases op <;> simp only [NoStd.sliceWriterOps, Std.sliceWriterOps, ih, eWriteZero]

/-- `Write for Vec<u8>` -/
theorem C13_vec_writer_equiv (ops : List IoOp) (w : Bytes) :
    NoStd.vecWriterOps ops w = Std.vecWriterOps ops w := by
  induction ops generalizing w with
  | nil => rfl
  | cons op ops ih => cases op <;> simp only [NoStd.vecWriterOps, Std.vecWriterOps, ih]

/-- the default `read_exact` loops of both io implementations coincide on every script -/
theorem C13_read_exact_loop_equiv (sc : Script) (n : Nat) (s : RState) :
    NoStd.readExact sc n s = Std.readExact sc n s := rfl

/-- non-vacuity: reads past the end, zero-length reads, writes into a full buffer -/
example :
    (NoStd.readerOps [.read 2, .read 0, .readExact 1, .read 9, .readExact 1] [1, 2, 3, 4] ==
       ([.got [1, 2], .got [], .got [3], .got [4], .failed eEof], [])) &&
    (NoStd.sliceWriterOps [.write [1, 2], .writeAll [3, 4, 5], .write [6], .flush] ([], 4) ==
       ([.count 2, .failed eWriteZero, .count 0, .unit], ([1, 2, 3, 4], 0))) = true := by
  decide

end Borsh
