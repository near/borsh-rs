/-
  C14 — Collections of zero-sized elements are refused consistently.
-/
import BorshModel.Theorems.C01
import BorshModel.Lemmas.WireZero
import BorshModel.Lemmas.AddDefs
import BorshModel.SchemaOf
namespace Borsh

/-- serializing: every owned sequence kind refuses zero-sized elements with the public
InvalidData message, and nothing at all is written -/
theorem C14_ser_refused_seq (k : SeqK) (t : Ty) (vs : List Val) (hk : k.serChecksZst = true)
    (hz : memZero t = true) :
    ser (.seq k t) (.list vs) = ⟨[], .err ⟨.invalidData, .zst⟩⟩ := by
  simp [ser, hk, hz, Tr.fail, eZst]

theorem C14_ser_refused_deque (t : Ty) (a b : List Val) (hz : memZero t = true) :
    ser (.seq .vecDeque t) (.deque a b) = ⟨[], .err ⟨.invalidData, .zst⟩⟩ := by
  simp [ser, hz, Tr.fail, eZst]

theorem C14_ser_refused_set (k : SetK) (t : Ty) (vs : List Val) (hz : memZero t = true) :
    ser (.set k t) (.list vs) = ⟨[], .err ⟨.invalidData, .zst⟩⟩ := by
  simp [ser, hz, Tr.fail, eZst]

/-- maps are refused by *key* type -/
theorem C14_ser_refused_map (k : MapK) (kt vt : Ty) (es : List Val) (hz : memZero kt = true) :
    ser (.map k kt vt) (.list es) = ⟨[], .err ⟨.invalidData, .zst⟩⟩ := by
  simp [ser, hz, Tr.fail, eZst]

/-- deserializing: refused before any length is trusted — on *every* input, the empty one
included, from any reader (nothing is read) -/
theorem C14_de_refused_seq {σ : Type} (rd : Rd σ) (st : Bool) (k : SeqK) (t : Ty) (s : σ)
    (hk : k ≠ .bytesMut) (hz : memZero t = true) :
    de rd st (.seq k t) s = .err ⟨.invalidData, .zst⟩ :=
  de_seq_zst rd st s hk hz

theorem C14_de_refused_set {σ : Type} (rd : Rd σ) (st : Bool) (k : SetK) (t : Ty) (s : σ)
    (hz : memZero t = true) : de rd st (.set k t) s = .err ⟨.invalidData, .zst⟩ :=
  de_set_zst rd st k s hz

theorem C14_de_refused_map {σ : Type} (rd : Rd σ) (st : Bool) (k : MapK) (kt vt : Ty) (s : σ)
    (hz : memZero kt = true) : de rd st (.map k kt vt) s = .err ⟨.invalidData, .zst⟩ :=
  de_map_zst rd st k vt s hz

/-- a fixed-size array is refused for no element type, zero-sized ones included: it round-trips -/
theorem C14_fixed_ok_array (st : Bool) (n : Nat) (t : Ty) (v : Val) (bs : Bytes)
    (hp : keysOk t = true) (hw : WfTy t = true) (hv : HasTy (.array n t) v = true)
    (he : toVec (.array n t) v = .ok bs) :
    fromSlice st (.array n t) bs = .ok (canon (.array n t) v) :=
  C01_roundtrip_partial (.array n t) (by rwa [keysOk]) (by rwa [WfTy]) st v bs hv he

/-- run-time refusal and the zero-sized-sequence verdict of schema validation agree on
`Vec<()>`, `Vec<[u8; 0]>`, `Vec<((), ())>`, `Vec<([(); 0], [(); 0])>`, `BTreeSet<()>` … -/
theorem C14_agrees_with_schema_examples :
    let zsts : List Ty := [Ty.unit, .array 0 (.int .u8), .prod .tuple [(none, false, Ty.unit), (none, false, Ty.unit)],
      .prod .tuple [(none, false, .array 0 Ty.unit), (none, false, .array 0 Ty.unit)], .array 5 Ty.unit,
      .prod .phantom [], .prod .rangeFull []]
    zsts.all (fun t =>
      memZero t &&
      (match schemaOf (.seq .vec t) with
       | .ok c => c.validate == .error (.zstSequence c.decl)
       | _ => false) &&
      (match schemaOf (.set .btreeSet t) with
       | .ok c => c.validate == .error (.zstSequence c.decl)
       | _ => false)) = true := by
  decide +kernel

/-- on element types that occupy memory and wire neither side refuses: `memZero` is false and the
container of the `Vec` validates -/
theorem C14_agrees_nonzero_examples :
    let ts : List Ty := [.int .u8, .str .string, .array 2 (.int .u16), .bool]
    ts.all (fun t =>
      !memZero t &&
      (match schemaOf (.seq .vec t) with
       | .ok c => c.validate == .ok ()
       | _ => false)) = true := by
  decide +kernel

/-- a `Vec`-like definition whose element declaration is zero-sized gets the zero-sized-sequence
verdict at the root -/
theorem validate_flags_zst_root (c : Container) (e : Name)
    (hg : c.get c.decl = some (defaultSeq e)) (hz : ZeroSized c e) :
    c.validate = .error (.zstSequence c.decl) := by
  rw [Container.validate, validateImpl_step, hg]
  -- a 4-byte length over the full `u32` range passes the range and width checks
  simp only [List.contains_nil, Bool.false_eq_true, if_false, defaultSeq, valNode,
    (isZeroSize_iff c e).mpr hz, checkLengthWidth_eq]
  rfl

/-- **Agreement of the run-time refusal with schema validation, for every element type**: if the
element type is empty both in memory (`memZero`) and on the wire (`wireZero`), then serializing a
`Vec`/`VecDeque`/`LinkedList`/`IndexSet` of it is refused, deserializing is refused before any
length is read, and the container generated for the collection gets the zero-sized-sequence
verdict from `validate` (whenever the container binds the element type as intended — which
`C08_coherent_bound` shows for every name-coherent type). -/
theorem C14_agreement_seq (c : Container) (k : SeqK) (t : Ty) (hk : k.serChecksZst = true)
    (hkb : k ≠ .bytesMut) (hs : shapeOk t = true) (hm : memZero t = true) (hw : wireZero t = true)
    (hb : Bnd c (.seq k t)) (hd : c.decl = declOf (.seq k t)) (vs : List Val) (st : Bool) (bs : Bytes) :
    (ser (.seq k t) (.list vs)).status = .err ⟨.invalidData, .zst⟩ ∧
    deserialize st (.seq k t) bs = .err ⟨.invalidData, .zst⟩ ∧
    c.validate = .error (.zstSequence c.decl) := by
  refine ⟨congrArg Tr.status (C14_ser_refused_seq k t vs hk hm),
    C14_de_refused_seq Rd.slice st k t bs hkb hm, ?_⟩
  exact validate_flags_zst_root c (declOf t) (by rw [hd]; exact hb.1) (wireZero_zeroSized c t hs hw hb.2)

theorem C14_agreement_set (c : Container) (k : SetK) (t : Ty) (hs : shapeOk t = true)
    (hm : memZero t = true) (hw : wireZero t = true)
    (hb : Bnd c (.set k t)) (hd : c.decl = declOf (.set k t)) (vs : List Val) (st : Bool) (bs : Bytes) :
    (ser (.set k t) (.list vs)).status = .err ⟨.invalidData, .zst⟩ ∧
    deserialize st (.set k t) bs = .err ⟨.invalidData, .zst⟩ ∧
    c.validate = .error (.zstSequence c.decl) := by
  refine ⟨congrArg Tr.status (C14_ser_refused_set k t vs hm), C14_de_refused_set Rd.slice st k t bs hm, ?_⟩
  exact validate_flags_zst_root c (declOf t) (by rw [hd]; exact hb.1) (wireZero_zeroSized c t hs hw hb.2)

/-- the same, end to end, for element types built from the built-in impls -/
theorem C14_agreement_builtin (k : SeqK) (t : Ty) (hk : k.serChecksZst = true) (hkb : k ≠ .bytesMut)
    (hg : guardFree t = true) (hs : shapeOk t = true) (hm : memZero t = true) (hw : wireZero t = true)
    (c : Container) (hc : schemaOf (.seq k t) = .ok c) :
    c.validate = .error (.zstSequence c.decl) := by
  obtain ⟨hb, hd⟩ := schemaOf_bnd (.seq k t) c (.of_guardFree hg) hc
  exact (C14_agreement_seq c k t hk hkb hs hm hw hb hd [] false []).2.2

/-- the same, end to end, for **every name-coherent element type** — derived unit structs, structs of
`PhantomData` and zero-length arrays, enums … included: the container `for_type::<Vec<T>>()` generates
gets the zero-sized-sequence verdict exactly where the run time refuses the collection -/
theorem C14_agreement_coherent (k : SeqK) (t : Ty) (hk : k.serChecksZst = true) (hkb : k ≠ .bytesMut)
    (hco : coherentB (.seq k t) = true) (hs : shapeOk t = true) (hm : memZero t = true)
    (hw : wireZero t = true) (c : Container) (hc : schemaOf (.seq k t) = .ok c) :
    c.validate = .error (.zstSequence c.decl) := by
  obtain ⟨hb, hd⟩ := schemaOf_bnd (.seq k t) c (coherentB_sound _ hco) hc
  exact (C14_agreement_seq c k t hk hkb hs hm hw hb hd [] false []).2.2

theorem C14_agreement_coherent_set (k : SetK) (t : Ty)
    (hco : coherentB (.set k t) = true) (hs : shapeOk t = true) (hm : memZero t = true)
    (hw : wireZero t = true) (c : Container) (hc : schemaOf (.set k t) = .ok c) :
    c.validate = .error (.zstSequence c.decl) := by
  obtain ⟨hb, hd⟩ := schemaOf_bnd (.set k t) c (coherentB_sound _ hco) hc
  exact (C14_agreement_set c k t hs hm hw hb hd [] false []).2.2

/-- non-vacuity: `Vec<Unit>` for a derived unit struct and `BTreeSet<(Marker, [u8; 0])>` -/
example :
    let u := Ty.prod (.struct [85] false) []
    let m := Ty.prod (.struct [77] false) [(some [112], false, .prod .phantom [])]
    let e := Ty.tuple [m, .array 0 (.int .u8)]
    (coherentB (.seq .vec u) && shapeOk u && memZero u && wireZero u &&
     coherentB (.set .btreeSet e) && shapeOk e && memZero e && wireZero e &&
     (match schemaOf (.seq .vec u) with | .ok c => c.validate == .error (.zstSequence c.decl) | _ => false)) = true := by
  decide +kernel

end Borsh
