/-
  C08 — A type's schema is a correct, self-contained description of its wire format.
-/
import BorshModel.SchemaOf
import BorshModel.Lemmas.Describes
import BorshModel.Lemmas.AddDefs
namespace Borsh

/-- primitive widths in the schema equal the encoder's widths, for every integer kind -/
theorem C08_int_widths (k : IntK) :
    addDefs (.int k) [] = .ok [(declOf (.int k), .primitive k.width)] := by
  cases k <;> rfl

theorem C08_float_widths (k : FloatK) :
    addDefs (.float k) [] = .ok [(declOf (.float k), .primitive k.width)] := by
  cases k <;> rfl

/-- the encoder writes exactly `width` bytes for an integer: schema size = wire size -/
theorem C08_int_size_matches_encoder (k : IntK) (i : Int) :
    (toVec (.int k) (.int i)).okBytes (encInt k i) = true ∧ (encInt k i).length = k.width := by
  constructor
  · simp [toVec, ser, Tr.emit, Tr.bytes, Out.okBytes]
  · simp [encInt]

/-- dynamically sized sequences are described with a 4-byte length and the full `u32` range,
fixed arrays with width 0 and the single length `n` — mirroring the encoder -/
theorem C08_seq_definition (k : SeqK) (t : Ty) (m : Defs) :
    addDefs (.seq k t) m =
      (insertDef (declOf (.seq k t)) (.sequence 4 0 (2 ^ 32 - 1) (declOf t)) m).bind (addDefs t) :=
  rfl

theorem C08_array_definition (n : Nat) (t : Ty) (m : Defs) :
    addDefs (.array n t) m =
      (insertDef (declOf (.array n t)) (.sequence 0 n n (declOf t)) m).bind (addDefs t) :=
  rfl

/-- a derived struct lists its non-skipped fields only, in declaration order, with their names
(names are byte strings: `[97]`, `[98]`, `[99]` are "a", "b", "c"; `[117, 56]` is "u8", `[98, 111, 111, 108]` "bool") -/
theorem C08_struct_fields_skip :
    schemaFields [(some [97], false, .int .u8), (some [98], true, .int .u16), (some [99], false, .bool)] =
      .named [([97], [117, 56]), ([99], [98, 111, 111, 108])] := by
  decide +kernel

/-- the container of a nested type defines every declaration it references and passes its own
validation (closedness is evaluated here on concrete nestings; the differential `schema` lines tie
`schemaOf` to the real `for_type` on every catalogue type) -/
theorem C08_closed_examples :
    let ts : List Ty := [.seq .vec (.map .btreeMap (.int .u8) (.seq .vec (.str .string))),
      Ty.sum .option [([78], 0, []), ([83], 1, [(none, false, .array 3 (.int .u16))])],
      .prod (.struct [83] false) [(some [97], false, .seq .vec (.int .u8)), (some [98], true, .int .u64)],
      .sum (.derived [69] false) [([65], 0, []), ([66], 3, [(none, false, .int .u8), (none, false, .str .string)])]]
    ts.all (fun t =>
      match schemaOf t with
      | .ok c =>
        c.validate == .ok () &&
        c.defs.all (fun e => match e.2 with
          | .sequence _ _ _ el => (c.get el).isSome
          | .tuple es => es.all fun n => (c.get n).isSome
          | .enum _ vs => vs.all fun v => (c.get v.2.2).isSome
          | .struct fs => fs.decls.all fun n => (c.get n).isSome
          | .primitive _ => true)
      | _ => false) = true := by
  decide +kernel

/-- Finding F8 (known finding, replayed on the real code by the `samename` workload): two distinct
derived types named `S`, each with one field of a type named `X`, where the two `X` differ
(`u8` vs `u16`).  The derive skips the fields of a declaration that is already present, so the
nested conflict is never compared: no panic, the container defines `X` as the first one, its
maximum is 2 bytes, and a value of the pair encodes to 3 bytes. -/
theorem C08_F8_same_name_witness :
    let xa := Ty.prod (.struct [88] false) [(none, false, .int .u8)]
    let xb := Ty.prod (.struct [88] false) [(none, false, .int .u16)]
    let sa := Ty.prod (.struct [83] false) [(some [102], false, xa)]
    let sb := Ty.prod (.struct [83] false) [(some [102], false, xb)]
    let t := Ty.tuple [sa, sb]
    let v := Val.list [.list [.list [.int 1]], .list [.list [.int 2]]]
    ((match schemaOf t with
      | .ok c => c.get [88] == some (.struct (.unnamed [[117, 56]])) &&
                 c.validate == .ok () && c.maxSerializedSize == .ok 2
      | _ => false) &&
     HasTy t v && (toVec t v).okBytes [1, 2, 0] &&
     -- a direct conflict is detected, as documented
     (match schemaOf (Ty.tuple [xa, xb]) with
      | .panic .assertRedefinition => true
      | _ => false)) = true := by
  decide +kernel

/-- **The schema alone describes the wire format**: if every declaration the type refers to is
bound in the container the way the schema impls and the derive intend (`Bnd`), then a reader that
knows only the container parses the encoding of *every* value of the type exactly to its end — same
field order, same tags, same counts and widths.  Every shape that has a schema: built-ins, derived
structs and enums with skipped fields and explicit discriminants, `IpAddr`. -/
theorem C08_describes_of_bound (c : Container) (t : Ty) (hs : shapeOk t = true) (hw : WfTy t = true)
    (hb : Bnd c t) (hd : c.decl = declOf t) (v : Val) (bs : Bytes)
    (hv : HasTy t v = true) (he : toVec t v = .ok bs) : c.describes bs := by
  obtain ⟨f, h⟩ := describesE c t hs hw hb
  exact (h f (Nat.le_refl f) v bs hv ((toVec_ok_iff_enc hv).mp he)).describes hd

/-- the container `for_type` builds binds every declaration as intended, for every composition of
the built-in impls (no derive "already present" shortcut on the way — see finding F8 for what that
shortcut can hide) -/
theorem C08_builtin_bound (t : Ty) (hg : guardFree t = true) (c : Container)
    (h : schemaOf t = .ok c) : Bnd c t ∧ c.decl = declOf t :=
  schemaOf_bnd t c (.of_guardFree hg) h

/-- **C08 for the built-in compositions**, end to end: the container generated for the type
parses every encoding of every value of the type exactly -/
theorem C08_builtin_describes (t : Ty) (hg : guardFree t = true) (hs : shapeOk t = true)
    (hw : WfTy t = true) (c : Container) (h : schemaOf t = .ok c) (v : Val) (bs : Bytes)
    (hv : HasTy t v = true) (he : toVec t v = .ok bs) : c.describes bs := by
  obtain ⟨hb, hd⟩ := C08_builtin_bound t hg c h
  exact C08_describes_of_bound c t hs hw hb hd v bs hv he

/-- non-vacuity: `HashMap<String, Vec<Option<(u8, [u16; 2])>>>` meets the hypotheses -/
example :
    let t := Ty.map .hashMap (.str .string)
      (.seq .vec (Ty.option (Ty.tuple [.int .u8, .array 2 (.int .u16)])))
    (guardFree t && shapeOk t && WfTy t && (match schemaOf t with | .ok _ => true | _ => false)) = true := by
  decide +kernel

/-- **`for_type` binds every declaration as intended for every name-coherent type** — derived structs
and enums (the derive's "declaration already present" shortcut included), `Ipv4Addr`-style built-ins,
ranges, any nesting and any reuse of the same user type.  `Coherent` excludes exactly what the
crate documents as unsupported: two *different* user types under one name. -/
theorem C08_coherent_bound (t : Ty) (hc : coherentB t = true) (c : Container)
    (h : schemaOf t = .ok c) : Bnd c t ∧ c.decl = declOf t :=
  schemaOf_bnd t c (coherentB_sound t hc) h

/-- **C08, end to end, for the whole universe**: for every name-coherent type that has a schema, a
reader that knows nothing but the generated container parses the encoding of every value of the type
exactly to its end. -/
theorem C08_describes (t : Ty) (hc : coherentB t = true) (hs : shapeOk t = true)
    (hw : WfTy t = true) (c : Container) (h : schemaOf t = .ok c) (v : Val) (bs : Bytes)
    (hv : HasTy t v = true) (he : toVec t v = .ok bs) : c.describes bs := by
  obtain ⟨hb, hd⟩ := C08_coherent_bound t hc c h
  exact C08_describes_of_bound c t hs hw hb hd v bs hv he

/-- the type of finding F8 is not name-coherent (two different `X`), which is why the theorem does
not apply to it; the pair of the *same* struct twice, a derived enum with a skipped field and an
explicit discriminant, and `Vec<(Ipv4Addr, Range<u8>)>` are -/
example :
    let xa := Ty.prod (.struct [88] false) [(none, false, .int .u8)]
    let xb := Ty.prod (.struct [88] false) [(none, false, .int .u16)]
    let sa := Ty.prod (.struct [83] false) [(some [102], false, xa)]
    let sb := Ty.prod (.struct [83] false) [(some [102], false, xb)]
    let e := Ty.sum (.derived [69] false)
      [([65], 0, []), ([66], 7, [(some [97], false, sa), (some [98], true, .int .u64), (some [99], false, xa)])]
    let r := Ty.seq .vec (Ty.tuple [.raw .ipv4, .prod .range [(none, false, .int .u8), (none, false, .int .u8)]])
    (coherentB (Ty.tuple [sa, sb]) == false && coherentB (Ty.tuple [sa, sa]) &&
     coherentB (Ty.tuple [e, .seq .vec sa, e]) && shapeOk e && WfTy e && coherentB r &&
     (match schemaOf (Ty.tuple [e, .seq .vec sa, e]) with | .ok _ => true | _ => false)) = true := by
  decide +kernel

end Borsh
