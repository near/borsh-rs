/-
  C11 — Decoding is independent of how the reader fragments or interrupts the stream.
-/
import BorshModel.Lemmas.Sim
import BorshModel.Lemmas.ScriptRead
import BorshModel.Lemmas.SimB
import BorshModel.Lemmas.Entry
namespace Borsh

/-- a slice and a scripted reader stand at the same point of the same stream -/
def SameStream (d : Bytes) (bs : Bytes) (s : RState) : Prop :=
  s.data = d ∧ s.pos ≤ s.data.length ∧ bs = s.data.drop s.pos

theorem simF_upTo {d : Bytes} {e : Err} {n : Nat} {f : Bytes → Out (Bytes × Bytes)}
    {g : RState → Out (Bytes × RState)}
    (hf : ∀ bs, f bs = if n ≤ bs.length then .ok (bs.take n, bs.drop n) else .err e)
    (hg : ∀ s, s.pos ≤ s.data.length → ReadsUpTo s.data.length e n s [] (g s)) :
    SimF (SameStream d) f g := by
  rintro _ s ⟨hd, hpos, rfl⟩
  rw [hf, List.length_drop]
  by_cases hn : s.pos + n ≤ s.data.length
  · obtain ⟨s', h1, h2⟩ := (hg s hpos).1 hn
    rw [h1, if_pos (Nat.le_sub_of_add_le' hn)]
    exact ⟨rfl, by rw [h2.data, hd], by rw [h2.data, h2.pos]; exact hn,
      by rw [h2.data, h2.pos, List.drop_drop]⟩
  · rw [(hg s hpos).2 hn, if_neg fun h => hn (Nat.add_le_of_le_sub' hpos h)]
    exact rfl

theorem script_rdSim (sc : Script) (hstop : sc.stop = none) (d : Bytes) :
    RdSim (SameStream d) Rd.slice (Rd.script sc) :=
  ⟨fun n => simF_upTo (slice_readExact n) fun _ hp => script_readExact (.of_none hstop) hp n,
   fun n => simF_upTo (slice_readBulk n) fun _ hp => script_readBulk (.of_none hstop) hp n⟩

/-- **Schedule independence.**  For every type of the universe, every byte stream, every chunk
pattern (down to one byte at a time, differently at each offset) and every placement of
transient `Interrupted` results, `deserialize_reader` over the scripted reader gives the same
value as `deserialize` over the slice — or the very same error — and on success the reader stands
exactly where the slice decoder stopped: no byte beyond the value is consumed. -/
theorem C11_schedule_independent (sc : Script) (hstop : sc.stop = none) (st : Bool) (t : Ty)
    (bs : Bytes) (intr : List (Nat × Nat)) :
    OutRel (SameStream bs) (deserialize st t bs) (deserializeReader (Rd.script sc) st t ⟨bs, 0, intr⟩) :=
  de_sim (script_rdSim sc hstop bs) t st bs ⟨bs, 0, intr⟩ ⟨rfl, Nat.zero_le _, rfl⟩

/-- the same, spelled out for the success case -/
theorem C11_same_value (sc : Script) (hstop : sc.stop = none) (st : Bool) (t : Ty)
    (bs rest : Bytes) (intr : List (Nat × Nat)) (v : Val)
    (h : deserialize st t bs = .ok (v, rest)) :
    ∃ s', deserializeReader (Rd.script sc) st t ⟨bs, 0, intr⟩ = .ok (v, s') ∧
      s'.data = bs ∧ s'.data.drop s'.pos = rest ∧ s'.pos ≤ s'.data.length := by
  have := C11_schedule_independent sc hstop st t bs intr
  rw [h] at this
  obtain ⟨r, hr, hv, hd, hp, hrest⟩ := this.of_ok
  exact ⟨r.2, by rw [hr]; exact congrArg (fun x => Out.ok (x, r.2)) hv.symm, hd, hrest.symm, hp⟩

/-- … and for the failure case: the error is the one the slice decoder reports -/
theorem C11_same_error (sc : Script) (hstop : sc.stop = none) (st : Bool) (t : Ty)
    (bs : Bytes) (intr : List (Nat × Nat)) (e : Err) (h : deserialize st t bs = .err e) :
    deserializeReader (Rd.script sc) st t ⟨bs, 0, intr⟩ = .err e := by
  have := C11_schedule_independent sc hstop st t bs intr
  rw [h] at this
  exact this.of_err

/-- the whole-input entry points probe for exactly one further byte: they agree with
`from_slice` on every schedule -/
theorem C11_whole_input (sc : Script) (hstop : sc.stop = none) (st : Bool) (t : Ty)
    (bs : Bytes) (intr : List (Nat × Nat)) (v : Val) (h : fromSlice st t bs = .ok v) :
    ∃ s', fromReader (Rd.script sc) st t ⟨bs, 0, intr⟩ = .ok (v, s') ∧ s'.pos = bs.length := by
  obtain ⟨s', h3, hd, h4, h5⟩ := C11_same_value sc hstop st t bs [] intr v (fromSlice_eq_ok_iff.mp h)
  have hend : s'.pos = s'.data.length :=
    Nat.le_antisymm h5 (Nat.le_of_sub_eq_zero (List.length_drop ▸ congrArg List.length h4))
  -- the probe: the stream is exhausted, so `read_exact(1)` reports end of stream
  have hp := (script_readExact (.of_none hstop) h5 1).2 (hend ▸ Nat.not_succ_le_self _)
  refine ⟨s', ?_, hd ▸ hend⟩
  unfold deserializeReader at h3
  simp [fromReader, h3, hp, eEof]

/-- both io implementations use the same `read_exact` algorithm (C13 states the same) -/
theorem C11_io_impl_agree (sc : Script) (n : Nat) (s : RState) :
    Std.readExact sc n s = NoStd.readExact sc n s := rfl

/-- non-vacuity: a string read one and two bytes at a time with interrupts in the length prefix,
in the payload and at the end-of-stream probe -/
example :
    (match fromReader (Rd.script ⟨[1, 2], none⟩) false (.str .string)
        ⟨[2, 0, 0, 0, 104, 105], 0, [(1, 2), (5, 1), (6, 3)]⟩ with
     | .ok r => Val.beq r.1 (.blob [104, 105]) && r.2.pos == 6
     | _ => false) = true := by
  decide +kernel

/-- **Any reader**: the scripted readers are one instance.  Whatever the reader is — buffered,
fragmenting, retrying — if its `read_exact` and its byte-vector read answer like the slice's on
related states (`RdSim`), then decoding any type from it gives the slice decoder's result and
leaves it in a state related to the remaining slice. -/
theorem C11_any_reader {σ : Type} (R : Bytes → σ → Prop) (rd : Rd σ) (h : RdSim R Rd.slice rd)
    (st : Bool) (t : Ty) (bs : Bytes) (s : σ) (hR : R bs s) :
    OutRel R (deserialize st t bs) (deserializeReader rd st t s) :=
  de_sim h t st bs s hR

/-- slice and scripted reader stand at the same point of the stream `d`, at or before offset `o` -/
def SameStreamUpTo (d : Bytes) (o : Nat) (bs : Bytes) (s : RState) : Prop :=
  s.data = d ∧ s.pos ≤ o ∧ bs = d.drop s.pos

/-- how far into `d` a slice decoder that still holds `bs` has advanced -/
def slicePos (d : Bytes) (bs : Bytes) : Nat := d.length - bs.length

theorem slicePos_drop {d : Bytes} {k : Nat} (h : k ≤ d.length) : slicePos d (d.drop k) = k := by
  rw [slicePos, List.length_drop, Nat.sub_sub_self h]

theorem simB_upTo {d : Bytes} {o n : Nat} {e esc : Err} {f : Bytes → Out (Bytes × Bytes)}
    {g : RState → Out (Bytes × RState)} (ho : o ≤ d.length)
    (hf : ∀ bs, f bs = if n ≤ bs.length then .ok (bs.take n, bs.drop n) else .err e)
    (hg : ∀ s, s.data = d → s.pos ≤ o → ReadsUpTo o esc n s [] (g s)) :
    SimB (SameStreamUpTo d o) (slicePos d) o esc f g := by
  refine ⟨fun bs a ha => ?_, ?_⟩
  · rw [hf] at ha
    split at ha <;> cases ha
    exact Nat.sub_le_sub_left (List.length_drop ▸ Nat.sub_le _ _) _
  · rintro _ s ⟨hd, hpos, rfl⟩ _
    have hs := hg s hd hpos
    rw [hf, List.length_drop]
    by_cases hn : s.pos + n ≤ o
    · obtain ⟨s', h1, h2⟩ := hs.1 hn
      simp only [if_pos (Nat.le_sub_of_add_le' (Nat.le_trans hn ho)), RelB, List.drop_drop,
        slicePos_drop (Nat.le_trans hn ho), if_pos hn]
      exact ⟨s', by rw [h1, hd]; rfl, by rw [h2.data, hd], by rw [h2.pos]; exact hn, by rw [h2.pos]⟩
    · -- the scripted read fails; the slice read fails too, or ends beyond `o`
      rw [hs.2 hn]
      split
      · rename_i hle
        simp only [RelB, List.drop_drop,
          slicePos_drop (Nat.add_le_of_le_sub' (Nat.le_trans hpos ho) hle), if_neg hn]
      · exact .inr rfl

theorem script_rdSimB (sc : Script) (o : Nat) (k : Kind) (id : Nat)
    (hstop : sc.stop = some (o, .fail k id)) (hk : k ≠ .interrupted) (d : Bytes) (ho : o ≤ d.length) :
    RdSimB (SameStreamUpTo d o) (slicePos d) o (userErr k id) Rd.slice (Rd.script sc) :=
  ⟨fun n => simB_upTo ho (slice_readExact n) fun _ hd hp =>
      script_readExact (.stop hstop hk (hd ▸ ho)) hp n,
   fun n => simB_upTo ho (slice_readBulk n) fun _ hd hp =>
      script_readBulk (.stop hstop hk (hd ▸ ho)) hp n⟩

/-- the complete description of decoding from a reader that fails for good at stream offset `o`
(any kind but `Interrupted`/`UnexpectedEof`, which the io conventions reserve for "retry" and "the
stream ended"), for every type, stream, chunking and interrupt placement: compared with the
slice decoder on the same bytes (`RelB`) -/
theorem C11_failure_general (sc : Script) (o : Nat) (k : Kind) (id : Nat)
    (hstop : sc.stop = some (o, .fail k id)) (hk : k ≠ .interrupted) (hk' : k ≠ .unexpectedEof)
    (st : Bool) (t : Ty) (bs : Bytes) (ho : o ≤ bs.length) (intr : List (Nat × Nat)) :
    RelB (SameStreamUpTo bs o) (slicePos bs) o (userErr k id)
      (deserialize st t bs) (deserializeReader (Rd.script sc) st t ⟨bs, 0, intr⟩) := by
  have hesc : mapEof (userErr k id) = userErr k id := by simp [mapEof, userErr, hk']
  exact (de_simB (script_rdSimB sc o k id hstop hk bs ho) hesc t st).2 bs ⟨bs, 0, intr⟩
    ⟨rfl, Nat.zero_le _, rfl⟩ (by simp [slicePos])

/-- **A genuine reader failure while the value is being read is returned unchanged**: if the
value occupies more than `o` bytes of the stream (the slice decoder, which cannot fail that way,
advances past `o`) the caller gets exactly the reader's error — kind and message — whatever was
decoded before it, however the reads were split and interrupted. -/
theorem C11_hard_failure (sc : Script) (o : Nat) (k : Kind) (id : Nat)
    (hstop : sc.stop = some (o, .fail k id)) (hk : k ≠ .interrupted) (hk' : k ≠ .unexpectedEof)
    (st : Bool) (t : Ty) (bs rest : Bytes) (v : Val) (intr : List (Nat × Nat))
    (h : deserialize st t bs = .ok (v, rest)) (hin : o < bs.length - rest.length) :
    deserializeReader (Rd.script sc) st t ⟨bs, 0, intr⟩ = .err (userErr k id) := by
  have := C11_failure_general sc o k id hstop hk hk' st t bs
    (Nat.le_trans (Nat.le_of_lt hin) (Nat.sub_le _ _)) intr
  rw [h] at this
  exact (if_neg (Nat.not_le_of_lt hin)).mp this

/-- **A failure the decoder never reaches is invisible**: if the value ends at or before offset
`o`, the result is the value, and the reader stands exactly at the end of the value -/
theorem C11_failure_after_value (sc : Script) (o : Nat) (k : Kind) (id : Nat)
    (hstop : sc.stop = some (o, .fail k id)) (hk : k ≠ .interrupted) (hk' : k ≠ .unexpectedEof)
    (st : Bool) (t : Ty) (bs rest : Bytes) (v : Val) (intr : List (Nat × Nat))
    (h : deserialize st t bs = .ok (v, rest)) (hout : bs.length - rest.length ≤ o) (ho : o ≤ bs.length) :
    ∃ s', deserializeReader (Rd.script sc) st t ⟨bs, 0, intr⟩ = .ok (v, s') ∧
      s'.data = bs ∧ rest = bs.drop s'.pos := by
  have := C11_failure_general sc o k id hstop hk hk' st t bs ho intr
  rw [h] at this
  obtain ⟨s', h1, h2, _, h4⟩ := (if_pos hout).mp this
  exact ⟨s', h1, h2, h4⟩

/-- if the bytes themselves are malformed, the caller sees that error or the reader's failure,
whichever the decoder meets first — never anything else -/
theorem C11_failure_or_same_error (sc : Script) (o : Nat) (k : Kind) (id : Nat)
    (hstop : sc.stop = some (o, .fail k id)) (hk : k ≠ .interrupted) (hk' : k ≠ .unexpectedEof)
    (st : Bool) (t : Ty) (bs : Bytes) (e : Err) (intr : List (Nat × Nat))
    (h : deserialize st t bs = .err e) (ho : o ≤ bs.length) :
    deserializeReader (Rd.script sc) st t ⟨bs, 0, intr⟩ = .err e ∨
    deserializeReader (Rd.script sc) st t ⟨bs, 0, intr⟩ = .err (userErr k id) := by
  have := C11_failure_general sc o k id hstop hk hk' st t bs ho intr
  rw [h] at this
  exact this

/-- non-vacuity: a `(u16, String)` read in chunks of 1 and 2 with an interrupt, the reader failing
with kind `user 7` at offset 5 (inside the string) — and the same failure at offset 8 (after the
value) going unnoticed -/
example :
    (match deserializeReader (Rd.script ⟨[1, 2], some (5, .fail (.user 7) 42)⟩) false
        (Ty.tuple [.int .u16, .str .string]) ⟨[1, 0, 2, 0, 0, 0, 104, 105], 0, [(3, 1)]⟩ with
     | .err e => e == userErr (.user 7) 42
     | _ => false) = true ∧
    (match deserializeReader (Rd.script ⟨[1, 2], some (8, .fail (.user 7) 42)⟩) false
        (Ty.tuple [.int .u16, .str .string]) ⟨[1, 0, 2, 0, 0, 0, 104, 105], 0, [(3, 1)]⟩ with
     | .ok r => Val.beq r.1 (.list [.int 1, .blob [104, 105]]) && r.2.pos == 8
     | _ => false) = true := by
  decide +kernel

end Borsh
