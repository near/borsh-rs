/-
  C16 — Malformed in-memory input is always reported as InvalidData.
-/
import BorshModel.Lemmas.Safe
import BorshModel.Theorems.C05
import BorshModel.Lemmas.Ext
namespace Borsh

/-- For every type, every byte string and both key-order modes: if `deserialize` on a slice
fails, the error kind is `InvalidData` (no `UnexpectedEof` or any other kind escapes). -/
theorem C16_kind_deserialize (st : Bool) (t : Ty) (bs : Bytes) (e : Err)
    (h : deserialize st t bs = .err e) : e.kind = .invalidData :=
  (de_safe_all t st bs).kind h

/-- the same for the whole-input entry points `from_slice` / `try_from_slice` -/
theorem C16_kind (st : Bool) (t : Ty) (bs : Bytes) (e : Err)
    (h : fromSlice st t bs = .err e) : e.kind = .invalidData :=
  (fromSlice_safe st t bs).kind h

/-- leftover bytes report the not-all-bytes-read message -/
theorem C16_leftover_partial (st : Bool) (t : Ty) (v : Val) (bs x : Bytes)
    (hp : keysOk t = true) (hw : WfTy t = true) (hv : HasTy t v = true) (he : toVec t v = .ok bs)
    (hx : x ≠ []) :
    fromSlice st t (bs ++ x) = .err ⟨.invalidData, .notAllBytesRead⟩ :=
  C05_trailing_rejected_partial st t v bs x hp hw hv he hx

/-- an error other than the unexpected-length one is independent of what follows the bytes that
caused it: it is reported in exactly the same way on every extension of the input (every type, both
modes) -/
theorem C16_error_stable (st : Bool) (t : Ty) (p s : Bytes) (e : Err)
    (h : deserialize st t p = .err e) (hne : e ≠ eUnexpectedLength) :
    deserialize st t (p ++ s) = .err e :=
  de_errext_all t st p e s h hne

/-- **Truncated input reports the unexpected-length message**: every proper prefix of the
encoding of a value — cut at any offset, inside a length prefix, a tag, a string, a nested
collection — is rejected by every slice entry point with `InvalidData`, "Unexpected length of
input"; no other message, no other kind. -/
theorem C16_truncated_partial (st : Bool) (t : Ty) (v : Val) (full p q : Bytes)
    (hp : keysOk t = true) (hw : WfTy t = true) (hv : HasTy t v = true) (he : toVec t v = .ok full)
    (hpq : full = p ++ q) (hq : q ≠ []) :
    deserialize st t p = .err ⟨.invalidData, .unexpectedLength⟩ ∧
    fromSlice st t p = .err ⟨.invalidData, .unexpectedLength⟩ := by
  subst hpq
  have key := prefix_rejected (fromSlice_eq_ok_iff.mp (C01_roundtrip_partial t hp hw st v _ hv he)) hq
  exact ⟨key, fromSlice_of_err key⟩

/-- non-vacuity: a map of strings to optional pairs, cut inside the second key -/
example :
    let t := Ty.map .btreeMap (.str .string) (Ty.option (Ty.tuple [.int .u16, .bool]))
    let v := Val.list [.list [.blob [97], .variant 1 [.list [.int 513, .bool true]]],
                       .list [.blob [98, 99], .variant 0 []]]
    (keysOk t && WfTy t && HasTy t v &&
     (toVec t v).okBytes [2, 0, 0, 0, 1, 0, 0, 0, 97, 1, 1, 2, 1, 2, 0, 0, 0, 98, 99, 0] &&
     (fromSlice true t [2, 0, 0, 0, 1, 0, 0, 0, 97, 1, 1, 2, 1, 2, 0, 0, 0, 98]).errIs
        ⟨.invalidData, .unexpectedLength⟩) = true := by
  decide +kernel

/-- zero-sized collections report the public zero-sized-types message, whatever the input -/
theorem C16_zst (st : Bool) (k : SeqK) (t : Ty) (bs : Bytes) (hz : memZero t = true)
    (hk : k ≠ .bytesMut) :
    fromSlice st (.seq k t) bs = .err ⟨.invalidData, .zst⟩ :=
  fromSlice_of_err (de_seq_zst _ st bs hk hz)

theorem C16_zst_set (st : Bool) (k : SetK) (t : Ty) (bs : Bytes) (hz : memZero t = true) :
    fromSlice st (.set k t) bs = .err ⟨.invalidData, .zst⟩ :=
  fromSlice_of_err (de_set_zst _ st k bs hz)

theorem C16_zst_map (st : Bool) (k : MapK) (kt vt : Ty) (bs : Bytes) (hz : memZero kt = true) :
    fromSlice st (.map k kt vt) bs = .err ⟨.invalidData, .zst⟩ :=
  fromSlice_of_err (de_map_zst _ st k vt bs hz)

/-- truncated input of a fixed-width block reports the unexpected-length message -/
theorem C16_truncated_block (n : Nat) (bs : Bytes) (h : bs.length < n) :
    readMapped Rd.slice n bs = .err ⟨.invalidData, .unexpectedLength⟩ := by
  rw [readMapped_slice, if_neg (Nat.not_le.mpr h)]; rfl

/-- non-vacuity: each cause named by the property, on concrete inputs -/
example :
    ((fromSlice false (.raw .objectId) [1, 2, 3]).errIs ⟨.invalidData, .unexpectedLength⟩ &&
     (fromSlice false (.int .u8) [1, 2]).errIs ⟨.invalidData, .notAllBytesRead⟩ &&
     (fromSlice false (.seq .vec Ty.unit) [0, 0, 0, 0]).errIs ⟨.invalidData, .zst⟩ &&
     (fromSlice false .bool [7]).errIs ⟨.invalidData, .badTag .bool 7⟩ &&
     (fromSlice false (.float .f32) [0, 0, 192, 127]).errIs ⟨.invalidData, .nanDe⟩ &&
     (fromSlice false (.nonzero .u16) [0, 0]).errIs ⟨.invalidData, .zeroNonZero⟩ &&
     (fromSlice false (.str .string) [1, 0, 0, 0, 255]).errIs ⟨.invalidData, .utf8⟩ &&
     (fromSlice false (.str .asciiString) [1, 0, 0, 0, 200]).errIs ⟨.invalidData, .ascii⟩ &&
     (fromSlice true (.set .btreeSet (.int .u8)) [2, 0, 0, 0, 5, 5]).errIs ⟨.invalidData, .keyOrder⟩) = true := by
  decide

end Borsh
