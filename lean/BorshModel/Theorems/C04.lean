/-
  C04 — The decoder accepts exactly the valid encodings (bijective in strict mode).
-/
import BorshModel.Theorems.C01
import BorshModel.Lemmas.Safe
import BorshModel.Lemmas.Reverse
import BorshModel.Lemmas.Strict
namespace Borsh

/-- (⇐) every valid encoding is accepted and yields the value the specification assigns -/
theorem C04_valid_accepted_partial (st : Bool) (t : Ty) (v : Val) (bs : Bytes)
    (hp : keysOk t = true) (hw : WfTy t = true) (hv : HasTy t v = true) (he : toVec t v = .ok bs) :
    fromSlice st t bs = .ok (canon t v) :=
  C01_roundtrip_partial t hp hw st v bs hv he

/-- (⇒, stream form) strict mode: whatever `deserialize` accepts is the encoding of the
well-typed value it returns, followed by exactly the bytes it leaves.  `revTy` excludes index
collections (finding F6) and init hooks; sets, maps, deques, skipped fields are included. -/
theorem C04_deserialize_reencodes (t : Ty) (hr : revTy t = true) (hw : WfTy t = true)
    (bs rest : Bytes) (v : Val) (h : deserialize true t bs = .ok (v, rest)) :
    HasTy t v = true ∧ ∃ enc, toVec t v = .ok enc ∧ enc ++ rest = bs := by
  obtain ⟨c, hb, ht, he⟩ := bwd_all t hr hw bs v rest h
  exact ⟨ht, c, (toVec_ok_iff_enc ht).mpr he, hb.symm⟩

/-- (⇒) strict mode: **every accepted byte string re-serializes to exactly itself** -/
theorem C04_accepted_reencodes (t : Ty) (hr : revTy t = true) (hw : WfTy t = true)
    (bs : Bytes) (v : Val) (h : fromSlice true t bs = .ok v) :
    HasTy t v = true ∧ toVec t v = .ok bs := by
  obtain ⟨ht, enc, he, rfl⟩ := C04_deserialize_reencodes t hr hw bs [] v (fromSlice_eq_ok_iff.mp h)
  exact ⟨ht, by rw [he, List.append_nil]⟩

/-- **A byte string is accepted (strict mode) iff it is the encoding of some value of the
type** — both directions, every `revTy ∧ keysOk` well-formed type. -/
theorem C04_accepts_iff_valid (t : Ty) (hr : revTy t = true) (hk : keysOk t = true)
    (hw : WfTy t = true) (bs : Bytes) :
    (∃ v, fromSlice true t bs = .ok v) ↔ (∃ v, HasTy t v = true ∧ toVec t v = .ok bs) := by
  constructor
  · rintro ⟨v, h⟩; exact ⟨v, C04_accepted_reencodes t hr hw bs v h⟩
  · rintro ⟨v, hv, he⟩; exact ⟨canon t v, C01_roundtrip_partial t hk hw true v bs hv he⟩

/-- **Strict-mode bijection**: `fromSlice` and `toVec` are mutually inverse between accepted
byte strings and canonical well-typed values. -/
theorem C04_strict_bijection (t : Ty) (hr : revTy t = true) (hk : keysOk t = true)
    (hw : WfTy t = true) (bs : Bytes) (v : Val) :
    fromSlice true t bs = .ok v ↔ (HasTy t v = true ∧ canon t v = v ∧ toVec t v = .ok bs) := by
  constructor
  · intro h
    obtain ⟨ht, he⟩ := C04_accepted_reencodes t hr hw bs v h
    exact ⟨ht, Out.ok.inj ((C01_roundtrip_partial t hk hw true v bs ht he).symm.trans h), he⟩
  · rintro ⟨ht, hc, he⟩
    have := C01_roundtrip_partial t hk hw true v bs ht he
    rw [hc] at this; exact this

/-- two byte strings accepted with the same value are the same string (strict mode) -/
theorem C04_decode_injective (t : Ty) (hr : revTy t = true) (hw : WfTy t = true)
    (b1 b2 : Bytes) (v : Val) (h1 : fromSlice true t b1 = .ok v) (h2 : fromSlice true t b2 = .ok v) :
    b1 = b2 :=
  Out.ok.inj ((C04_accepted_reencodes t hr hw b1 v h1).2.symm.trans
    (C04_accepted_reencodes t hr hw b2 v h2).2)

/-- non-vacuity: a type with a hash map, an ordered set, a deque, an option and a skipped field
meets all three hypotheses -/
example :
    let t := Ty.prod (.struct [83] false)
      [(some [97], false, .map .hashMap (.str .string) (.set .btreeSet (.int .u16))),
       (some [98], true, .int .u32),
       (some [99], false, .seq .vecDeque (Ty.sum .option [([78], 0, []), ([83], 1, [(none, false, .bool)])]))]
    (revTy t && keysOk t && WfTy t) = true := by
  decide +kernel

/-- whatever strict mode accepts, lax mode accepts with the same value: every type, sets and maps
included — so the lax mode only *adds* inputs -/
theorem C04_strict_accept_implies_lax (t : Ty) (bs : Bytes) (v : Val)
    (h : fromSlice true t bs = .ok v) : fromSlice false t bs = .ok v :=
  fromSlice_eq_ok_iff.mpr (strict_sub_lax_all Rd.slice t bs _ (fromSlice_eq_ok_iff.mp h))

/-- … and the inputs it adds can only involve a hash/ordered set or map: on every type without
one the two modes are the same decoder (index collections have no order check in either mode) -/
theorem C04_mode_irrelevant_without_order (t : Ty) (h : noOrderCheck t = true) (bs : Bytes) :
    fromSlice false t bs = fromSlice true t bs := by
  unfold fromSlice deserialize
  rw [mode_irrelevant_all Rd.slice t h]

/-- **The only additional inputs the lax mode accepts are unsorted or repeated entries**: for
every type and every byte string, strict mode answers exactly as lax mode does, or it answers with
the key-order rejection — nothing else ever differs (values, other errors, leftover handling). -/
theorem C04_modes_differ_only_by_key_order (t : Ty) (bs : Bytes) :
    fromSlice true t bs = fromSlice false t bs ∨ fromSlice true t bs = .err eKeyOrder := by
  unfold fromSlice deserialize
  exact DevO.bind (strict_dev_all Rd.slice t bs) fun _ => DevO.refl _

/-- … read from the lax side: an input accepted without strict ordering is either accepted with
the same value under strict ordering, or rejected there *because of key order* -/
theorem C04_lax_extra_inputs (t : Ty) (bs : Bytes) (v : Val) (h : fromSlice false t bs = .ok v) :
    fromSlice true t bs = .ok v ∨ fromSlice true t bs = .err eKeyOrder := by
  rcases C04_modes_differ_only_by_key_order t bs with h' | h'
  · left; rw [h', h]
  · right; exact h'

/-- the same for any reader and for the streaming entry point -/
theorem C04_modes_differ_only_by_key_order_reader {σ : Type} (rd : Rd σ) (t : Ty) (s : σ) :
    deserializeReader rd true t s = deserializeReader rd false t s ∨
    deserializeReader rd true t s = .err eKeyOrder :=
  strict_dev_all rd t s

/-- a tag byte other than 0/1 is never accepted for `bool` -/
theorem C04_bool_tag (st : Bool) (b : UInt8) (rest : Bytes) (h0 : b ≠ 0) (h1 : b ≠ 1) :
    deserialize st .bool (b :: rest) = .err ⟨.invalidData, .badTag .bool b⟩ := by
  simp [deserialize, de, readU8_ok.mpr rfl, h0, h1, eBadTag]

/-- an unknown tag byte is never accepted for a sum (Option, Result, IpAddr, derived enums …) -/
theorem C04_unknown_tag (st : Bool) (k : SumK) (vs : List Variant) (tag : UInt8) (rest : Bytes)
    (h : tag ∉ variantTags vs) :
    deserialize st (.sum k vs) (tag :: rest) = .err ⟨.invalidData, .badTag k.tagK tag⟩ :=
  de_sum_unknown_tag st k vs rest h

/-- NaN bit patterns are never accepted -/
theorem C04_nan_rejected (st : Bool) (k : FloatK) (bs rest : Bytes) (hl : bs.length = k.width)
    (h : isNanBits k (ofLe bs) = true) :
    deserialize st (.float k) (bs ++ rest) = .err ⟨.invalidData, .nanDe⟩ := by
  simp [deserialize, de, readMapped_ok.mpr ⟨hl, rfl⟩, h, eNanDe]

/-- zero is never accepted for a NonZero integer -/
theorem C04_zero_rejected (st : Bool) (k : IntK) (bs rest : Bytes) (hl : bs.length = k.width)
    (h : decInt k bs = 0) :
    deserialize st (.nonzero k) (bs ++ rest) = .err ⟨.invalidData, .zeroNonZero⟩ := by
  simp [deserialize, de, readMapped_ok.mpr ⟨hl, rfl⟩, h, eZero]

/-- ill-formed UTF-8 is never accepted for a string -/
theorem C04_utf8_rejected (st : Bool) (k : StrK) (bs rest : Bytes) (hk : k.isAscii = false)
    (hl : bs.length < 2 ^ 32) (h : validUtf8 bs = false) :
    deserialize st (.str k) (u32le bs.length ++ bs ++ rest) = .err ⟨.invalidData, .utf8⟩ := by
  rw [deserialize, de, deByteVec_ok.mpr ⟨hl, rfl⟩]
  simp [hk, h, eUtf8]

/-- with strict key ordering, a set whose entries are not strictly ascending is rejected … -/
theorem C04_strict_rejects_unsorted (k : SetK) (t : Ty) (bs : Bytes) (vs : List Val) (r : Bytes)
    (hz : memZero t = false)
    (hd : deVec Rd.slice t.isU8 (de Rd.slice true t) bs = .ok (vs, r))
    (hs : strictlyAscending id vs = false) :
    deserialize true (.set k t) bs = .err ⟨.invalidData, .keyOrder⟩ := by
  simp [deserialize, de, hz, hd, hs, eKeyOrder]

/-- … and without it the same bytes are accepted: the *only* effect of the mode on sets -/
theorem C04_lax_accepts_unsorted (k : SetK) (t : Ty) (bs : Bytes) (vs : List Val) (r : Bytes)
    (hz : memZero t = false)
    (hd : deVec Rd.slice t.isU8 (de Rd.slice false t) bs = .ok (vs, r)) :
    deserialize false (.set k t) bs = .ok (.list (collectSet vs), r) := by
  simp [deserialize, de, hz, hd]

/-- **Without strict ordering a set is read exactly as the sequence of its elements, then
collected**: same acceptance, same bytes consumed, same rest — for every element type, reader and
input.  So the only inputs accepted beyond the canonical ones are sequence encodings with unsorted
or repeated entries, and whatever follows them is left alone. -/
theorem C04_lax_set_is_collected_sequence {σ : Type} (rd : Rd σ) (k : SetK) (t : Ty) (s : σ) :
    de rd false (.set k t) s =
      (de rd false (.seq .vec t) s).bind fun r =>
        match r.1 with
        | .list vs => .ok (.list (collectSet vs), r.2)
        | v => .ok (v, r.2) := by
  simp only [de]
  cases memZero t
  · cases deVec rd t.isU8 (de rd false t) s <;> rfl
  · rfl

/-- a map entry is read as the pair `(K, V)` -/
theorem deEntry_eq_tuple {σ : Type} (rd : Rd σ) (st : Bool) (a b : Ty) :
    deEntry (de rd st a) (de rd st b) = de rd st (Ty.tuple [a, b]) := by
  funext s
  simp only [Ty.tuple, List.map, de, deFields, deEntry, ProdK.init, Bool.false_eq_true, if_false]
  cases de rd st a s with
  | ok x => simp only [Out.bind_ok]; cases de rd st b x.2 <;> rfl
  | err e => rfl
  | panic p => rfl

/-- … and a hash or ordered map exactly as the sequence of its `(K, V)` pairs, then collected (the
last value of a repeated key wins) -/
theorem C04_lax_map_is_collected_sequence {σ : Type} (rd : Rd σ) (k : MapK) (a b : Ty) (s : σ)
    (hk : k ≠ .indexMap) (hz : memZero a = false) :
    de rd false (.map k a b) s =
      (deVec rd false (de rd false (Ty.tuple [a, b])) s).bind fun r =>
        .ok (.list (collectMap r.1), r.2) := by
  cases k with
  | indexMap => exact absurd rfl hk
  | hashMap | btreeMap =>
    simp only [de, hz, Bool.false_eq_true, if_false, deEntry_eq_tuple, Bool.false_and]

/-- Finding F6, proved of the model and replayed on the real code: index collections have no
order or duplicate check in any mode, so in strict mode an accepted string need not re-encode
to itself. -/
theorem C04_indexSet_counterexample :
    ((fromSlice true (.seq .indexSet (.int .u8)) [2, 0, 0, 0, 5, 5]).okVal (.list [.int 5]) &&
     (toVec (.seq .indexSet (.int .u8)) (.list [.int 5])).okBytes [1, 0, 0, 0, 5]) = true := by
  decide

end Borsh
