/-
  C01 — Round trip: decoding an encoding returns the original value.

  The full statement is `C01_full` below.  It is proved for every well-formed type whose set elements, map keys
  and index-set elements are *key types* (`keysOk`; a key type is one whose canonical form is
  the value itself — no hash collection, deque, skipped field or init hook inside the key; ordered
  sets and maps of key types are key types, e.g. `BTreeSet<BTreeSet<u8>>`).  What is excluded is
  partly necessary: for keys with a skipped field the statement is false (theorem
  `C01_skipped_key_field_boundary`, replayed on the real code); hash collections and deques as keys
  are excluded because their representation order and their logical order differ.  Hence the
  `_partial` suffix.
-/
import BorshModel.Lemmas.Roundtrip
import BorshModel.Lemmas.Entry
namespace Borsh

/-- C01 at one type: whatever serializes successfully decodes, through the whole-input entry
point and in both key-order modes, to its canonical form. -/
def C01_at (t : Ty) : Prop :=
  ∀ (st : Bool) (v : Val) (bs : Bytes),
    HasTy t v = true → toVec t v = .ok bs → fromSlice st t bs = .ok (canon t v)

/-- the full property: every well-formed type of the universe -/
def C01_full : Prop := ∀ t : Ty, WfTy t = true → C01_at t

/-- `deserialize` on the encoding followed by anything returns the canonical value and leaves
exactly what followed ("consumes all input" in its general form). -/
theorem C01_roundtrip_stream_partial (st : Bool) (t : Ty) (v : Val) (bs rest : Bytes)
    (hp : keysOk t = true) (hw : WfTy t = true) (hv : HasTy t v = true)
    (he : toVec t v = .ok bs) :
    deserialize st t (bs ++ rest) = .ok (canon t v, rest) :=
  fwd_all st t hp hw v hv bs ((toVec_ok_iff_enc hv).mp he) rest

/-- C01 for every well-formed type whose set, map and index-set keys are key types (`keysOk`), every value, both strictness settings. -/
theorem C01_roundtrip_partial (t : Ty) (hp : keysOk t = true) (hw : WfTy t = true) : C01_at t :=
  fun st v bs hv he =>
    fromSlice_eq_ok_iff.mpr (List.append_nil bs ▸ C01_roundtrip_stream_partial st t v bs [] hp hw hv he)

/-- the chunked byte-vector loop returns exactly the requested bytes for *every* length
(in particular beyond the 1 MiB initial allocation) -/
theorem C01_bulk_loop_exact (len : Nat) (bs : Bytes) (h : len ≤ bs.length) :
    Rd.slice.readBulk len bs = .ok (bs.take len, bs.drop len) := by
  rw [slice_readBulk, if_pos h]

/-- non-vacuity: a nested plain type, a value of it, its encoding and the decode -/
example :
    let t := Ty.seq .vec (Ty.sum .option [([78], 0, []), ([83], 1, [(none, false,
      .prod (.struct [83] false)
        [(some [97], false, .int .i16), (some [98], true, .bool), (none, false, .str .string)])])])
    let v := Val.list [.variant 0 [], .variant 1 [.list [.int (-2), .bool true, .blob [104, 105]]]]
    (plain t && WfTy t && HasTy t v &&
      (toVec t v).okBytes [2, 0, 0, 0, 0, 1, 254, 255, 2, 0, 0, 0, 104, 105] &&
      (fromSlice true t [2, 0, 0, 0, 0, 1, 254, 255, 2, 0, 0, 0, 104, 105]).okVal
        (.list [.variant 0 [], .variant 1 [.list [.int (-2), .bool false, .blob [104, 105]]]])) = true := by
  decide +kernel

/-- non-vacuity for the keyed part: `HashMap<String, BTreeSet<u16>>` written from an unsorted
entry list comes back sorted by key, in strict mode too -/
example :
    let t := Ty.map .hashMap (.str .string) (.set .btreeSet (.int .u16))
    let v := Val.list [.list [.blob [98], .list [.int 1, .int 2]], .list [.blob [97], .list []]]
    (keysOk t && WfTy t && HasTy t v &&
      (toVec t v).okBytes [2, 0, 0, 0, 1, 0, 0, 0, 97, 0, 0, 0, 0,
                           1, 0, 0, 0, 98, 2, 0, 0, 0, 1, 0, 2, 0] &&
      (fromSlice true t [2, 0, 0, 0, 1, 0, 0, 0, 97, 0, 0, 0, 0,
                         1, 0, 0, 0, 98, 2, 0, 0, 0, 1, 0, 2, 0]).okVal
        (.list [.list [.blob [97], .list []], .list [.blob [98], .list [.int 1, .int 2]]])) = true := by
  decide +kernel

/-- **Why `keysOk` cannot simply be dropped** (scope boundary S8, replayed on the real code): a set
whose element type has a skipped field.  `struct K { a: u8, #[borsh(skip)] b: u8 }` with the derived
`Ord`; the set `{K{1,2}, K{1,3}}` serializes to `02 00 00 00 01 01` — two equal elements on the wire.
Without `de_strict_order` it reads back as the one-element set `{K{1,0}}`; with it, it is rejected
(keys not ascending).  The format does not carry what distinguished the two keys, so no decoder could
do better; the round-trip theorem therefore excludes keys whose identity depends on data the format
does not carry (skipped fields, init hooks), and hash collections / deques inside keys. -/
theorem C01_skipped_key_field_boundary :
    let k := Ty.prod (.struct [75] false) [(some [97], false, .int .u8), (some [98], true, .int .u8)]
    let t := Ty.set .btreeSet k
    let v := Val.list [.list [.int 1, .int 2], .list [.int 1, .int 3]]
    (WfTy t && HasTy t v && !keysOk t &&
      (toVec t v).okBytes [2, 0, 0, 0, 1, 1] &&
      (fromSlice false t [2, 0, 0, 0, 1, 1]).okVal (.list [.list [.int 1, .int 0]]) &&
      (fromSlice true t [2, 0, 0, 0, 1, 1]).errIs ⟨.invalidData, .keyOrder⟩) = true := by
  decide +kernel

end Borsh
