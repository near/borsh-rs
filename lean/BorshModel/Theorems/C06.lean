/-
  C06 — Derived impls implement the documented semantics for every item shape.
-/
import BorshModel.Derive
import BorshModel.Theorems.C01
import BorshModel.Lemmas.SpecRefine
namespace Borsh
open Derive

/-- without `use_discriminant = true` variants are tagged by ordinal, whatever explicit
discriminants the enum carries -/
theorem C06_tags_ordinal (ds : List (Option Int)) : tagsOf false ds = List.range ds.length := rfl

/-- with `use_discriminant = true` they are tagged by the discriminant the compiler assigns:
the explicit one, else the previous one plus one, starting at 0 -/
theorem C06_tags_explicit (ds : List (Option Int)) :
    tagsOf true ds = (discriminants ds 0).map Int.toNat := rfl

theorem C06_discriminant_rule_explicit (d : Int) (rest : List (Option Int)) (next : Int) :
    discriminants (some d :: rest) next = d :: discriminants rest (d + 1) := rfl

theorem C06_discriminant_rule_implicit (rest : List (Option Int)) (next : Int) :
    discriminants (none :: rest) next = next :: discriminants rest (next + 1) := rfl

theorem discriminants_length (ds : List (Option Int)) (n : Int) :
    (discriminants ds n).length = ds.length := by
  induction ds generalizing n with
  | nil => rfl
  | cons d rest ih => cases d <;> simp [discriminants, ih]

/-- one tag per variant, in either mode -/
theorem C06_one_tag_per_variant (use : Bool) (ds : List (Option Int)) :
    (tagsOf use ds).length = ds.length := by
  cases use <;> simp [tagsOf, discriminants_length]

/-- ordinal tags of an enum with at most 256 variants are pairwise distinct *as bytes*, so the
if-chain of `deserialize_variant` finds exactly the variant that was written -/
theorem C06_ordinal_tags_distinct (n : Nat) (h : n ≤ 256) :
    ((List.range n).map UInt8.ofNat).Nodup := by
  refine List.pairwise_map.mpr (List.pairwise_lt_range.imp_of_mem ?_)
  intro a b ha hb hab he
  -- below 256 the conversion to a byte loses nothing
  have hmod (x : Nat) (hx : x ∈ List.range n) : (UInt8.ofNat x).toNat = x := by
    rw [UInt8.toNat_ofNat']
    exact Nat.mod_eq_of_lt (Nat.lt_of_lt_of_le (List.mem_range.mp hx) h)
  exact Nat.ne_of_lt hab (by rw [← hmod a ha, ← hmod b hb, he])

/-- non-skipped fields are encoded in declaration order, skipped fields not at all: the derived
struct serializer equals the specification's field walk -/
theorem C06_fields_in_order (fs : List Field) (vs : List Val) (hv : HasTyFields fs vs = true) :
    (serFields fs vs).toSpec = Spec.encFields fs vs :=
  refines_all (.prod .tuple fs) (.list vs) hv

theorem C06_skipped_field_not_encoded (n : Option Name) (t : Ty) (fs : List Field) (v : Val) (vs : List Val) :
    serFields ((n, true, t) :: fs) (v :: vs) = serFields fs vs := rfl

/-- a skipped field is restored with `Default::default()` wherever it stands, and reading it
consumes nothing, over any reader -/
theorem C06_skip_default {σ : Type} (rd : Rd σ) (st : Bool) (n : Option Name) (t : Ty)
    (fs : List Field) (s : σ) :
    deFields rd st ((n, true, t) :: fs) s =
      (deFields rd st fs s).map fun r => (defaultOf t :: r.1, r.2) := rfl

/-- decoding the whole enum is: read one tag byte, then decode the variant from that tag
(`EnumExt::deserialize_variant`) -/
theorem C06_variant_agrees {σ : Type} (rd : Rd σ) (st : Bool) (k : SumK) (vs : List Variant) (s : σ) :
    de rd st (.sum k vs) s =
      (readU8 rd s).bind fun r =>
        (deVariants rd st k.tagK vs r.1 0 r.2).map fun q => (initVariant k.init q.1, q.2) := rfl

/-- an unknown tag is an InvalidData error -/
theorem C06_unknown_tag (st : Bool) (k : SumK) (vs : List Variant) (tag : UInt8) (rest : Bytes)
    (h : tag ∉ variantTags vs) :
    deserialize st (.sum k vs) (tag :: rest) = .err ⟨.invalidData, .badTag k.tagK tag⟩ :=
  de_sum_unknown_tag st k vs rest h

/-- the init hook runs exactly once, after all fields have been decoded -/
theorem C06_init_once {σ : Type} (rd : Rd σ) (st : Bool) (name : Name) (fs : List Field) (s : σ) :
    de rd st (.prod (.struct name true) fs) s =
      (deFields rd st fs s).map fun r => (.list (applyInit r.1), r.2) := rfl

theorem C06_init_increments_once (vs : List Val) (i : Int) :
    applyInit (vs ++ [.int i]) = vs ++ [.int (i + 1)] := by
  induction vs with
  | nil => rfl
  | cons v vs ih =>
    cases vs with
    | nil => simp [applyInit]
    | cons w ws => simp only [List.cons_append] at ih ⊢; simp [applyInit, ih]

/-- every derived item whose keyed collections have key types round-trips (C01 applies to it) -/
theorem C06_roundtrip_partial (st : Bool) (k : ProdK) (fs : List Field) (v : Val) (bs : Bytes)
    (hp : keysOkFields fs = true) (hw : WfFields fs = true) (hv : HasTy (.prod k fs) v = true)
    (he : toVec (.prod k fs) v = .ok bs) :
    fromSlice st (.prod k fs) bs = .ok (canon (.prod k fs) v) :=
  C01_roundtrip_partial (.prod k fs) hp hw st v bs hv he

/-- non-vacuity: an enum with a discriminant following an implicit one -/
example :
    tagsOf true [some 3, none, some 10, none] = [3, 4, 10, 11] ∧
    tagsOf false [some 3, none, some 10, none] = [0, 1, 2, 3] := by
  decide

end Borsh
