/-
  C18 — Derives refuse definitions whose encoding would be ambiguous or unrepresentable.
-/
import BorshModel.Derive
namespace Borsh
open Derive

/-! the statement's list, rule by rule, as predicates on the surface description -/

def fieldsOf : ItemDef → List FieldDef
  | .struct_ _ fs => fs
  | .enum_ _ vs => (vs.map (·.fields)).flatten
  | .union_ => []

def itemAttrsOf : ItemDef → List (List ItemAttr)
  | .struct_ as _ => as
  | .enum_ as _ => as
  | .union_ => []

def isUnion : ItemDef → Bool
  | .union_ => true
  | _ => false

def repeatedBorshAttr (d : ItemDef) : Bool :=
  (itemAttrsOf d).length > 1 || (fieldsOf d).any fun f => f.attrs.length > 1

def unknownItemKey (d : ItemDef) : Bool := hasUnknownItemKey (itemAttrsOf d)
def unknownFieldKey (d : ItemDef) : Bool := (fieldsOf d).any fun f => f.hasUnknown

def skipConflict (d : ItemDef) : Bool := (fieldsOf d).any fun f => f.conflict

def useDiscrOnStruct : ItemDef → Bool
  | .struct_ as _ => (useDiscrSetting as.flatten).isSome
  | _ => false

def useDiscrNotBool : ItemDef → Bool
  | .enum_ as _ => useDiscrSetting as.flatten == some none
  | _ => false

def explicitDiscrWithoutSetting : ItemDef → Bool
  | .enum_ as vs => useDiscrSetting as.flatten == none && vs.any fun v => v.discr.isSome
  | _ => false

def tooManyVariants : ItemDef → Bool
  | .enum_ _ vs => vs.length > 256
  | _ => false

def discrDoesNotFit : ItemDef → Bool
  | .enum_ as vs => useDiscrSetting as.flatten == some (some true) &&
      (discriminants (vs.map (·.discr)) 0).any fun x => x < 0 || 255 < x
  | _ => false

/-- any of the rule violations the statement lists -/
def violatesSomeRule (d : ItemDef) : Bool :=
  isUnion d || repeatedBorshAttr d || unknownItemKey d || unknownFieldKey d || skipConflict d ||
  useDiscrOnStruct d || useDiscrNotBool d || explicitDiscrWithoutSetting d || tooManyVariants d ||
  discrDoesNotFit d

theorem ite_some_eq_none {α : Type} {c : Prop} [Decidable c] {r : α} {x : Option α} :
    (if c then some r else x) = none ↔ ¬ c ∧ x = none := by
  split <;> simp [*]

theorem checkField_none_iff (f : FieldDef) :
    checkField f = none ↔ (f.attrs.length ≤ 1 ∧ f.hasUnknown = false ∧ f.conflict = false) := by
  simp only [checkField, ite_some_eq_none, gt_iff_lt, Nat.not_lt, Bool.not_eq_true, and_true]

theorem checkFields_none_iff (fs : List FieldDef) :
    checkFields fs = none ↔ ∀ f ∈ fs, checkField f = none :=
  List.findSome?_eq_none_iff

/-- the fields of an enum are checked like those of a struct, variant after variant -/
theorem checkFields_variants (vs : List VariantDef) :
    (vs.findSome? fun v => checkFields v.fields) = checkFields (vs.map (·.fields)).flatten := by
  induction vs with
  | nil => rfl
  | cons v vs ih =>
    rw [List.map_cons, List.flatten_cons, checkFields, List.findSome?_append, ← checkFields, ← checkFields,
      ← ih, List.findSome?_cons]
    cases checkFields v.fields <;> rfl

theorem fieldRules_iff (fs : List FieldDef) :
    checkFields fs = none ↔
      (fs.any (fun f => decide (f.attrs.length > 1)) = false ∧ fs.any (fun f => f.hasUnknown) = false ∧
       fs.any (fun f => f.conflict) = false) := by
  simp only [checkFields_none_iff, checkField_none_iff, List.any_eq_false, decide_eq_true_eq, gt_iff_lt,
    Nat.not_lt, Bool.not_eq_true]
  exact ⟨fun h => ⟨fun f hf => (h f hf).1, fun f hf => (h f hf).2.1, fun f hf => (h f hf).2.2⟩,
    fun h f hf => ⟨h.1 f hf, h.2.1 f hf, h.2.2 f hf⟩⟩

/-- The rules in the order in which `accepts` checks them: the item's own attributes, the enum's
discriminants, then the fields.  This is the one place where the two orders are matched. -/
theorem violatesSomeRule_eq_false_iff (d : ItemDef) : violatesSomeRule d = false ↔
    isUnion d = false ∧ ¬ (itemAttrsOf d).length > 1 ∧ unknownItemKey d = false ∧
    useDiscrOnStruct d = false ∧ tooManyVariants d = false ∧ useDiscrNotBool d = false ∧
    explicitDiscrWithoutSetting d = false ∧ discrDoesNotFit d = false ∧
    checkFields (fieldsOf d) = none := by
  simp only [violatesSomeRule, repeatedBorshAttr, unknownFieldKey, skipConflict, Bool.or_eq_false_iff,
    fieldRules_iff, decide_eq_false_iff_not]
  constructor
  · rintro ⟨⟨⟨⟨⟨⟨⟨⟨⟨u, a, f1⟩, ui⟩, f2⟩, f3⟩, os⟩, nb⟩, ew⟩, tm⟩, df⟩
    exact ⟨u, a, ui, os, tm, nb, ew, df, f1, f2, f3⟩
  · rintro ⟨u, a, ui, os, tm, nb, ew, df, f1, f2, f3⟩
    exact ⟨⟨⟨⟨⟨⟨⟨⟨⟨u, a, f1⟩, ui⟩, f2⟩, f3⟩, os⟩, nb⟩, ew⟩, tm⟩, df⟩

/-- what an enum's `use_discriminant` setting `s` decides, `e`: some variant has an explicit
discriminant, `d`: some discriminant does not fit a byte, `x`: the verdict on the fields -/
theorem settingRules_iff {s : Option (Option Bool)} {e d : Bool} {x : Option Reject} :
    (match s with
      | some none => some .useDiscriminantNotBool
      | none => if e then some .explicitDiscriminantWithoutSetting else x
      | some (some use) => if use && d then some .discriminantOutOfRange else x) = none ↔
    (s == some none) = false ∧ (s == none && e) = false ∧ (s == some (some true) && d) = false ∧
      x = none := by
  rcases s with _ | _ | _ | _ <;> simp [ite_some_eq_none]

/-- **A struct compiles exactly when it violates none of the rules.** -/
theorem C18_decision_struct (as : List (List ItemAttr)) (fs : List FieldDef) :
    accepts (.struct_ as fs) = none ↔ violatesSomeRule (.struct_ as fs) = false := by
  rw [violatesSomeRule_eq_false_iff]
  simp only [accepts, ite_some_eq_none, isUnion, itemAttrsOf, unknownItemKey, useDiscrOnStruct,
    tooManyVariants, useDiscrNotBool, explicitDiscrWithoutSetting, discrDoesNotFit, fieldsOf,
    true_and, Bool.not_eq_true]

/-- **An enum compiles exactly when it violates none of the rules** — whatever the number, order
and shapes of its variants, wherever an offending discriminant, field or attribute stands. -/
theorem C18_decision_enum (as : List (List ItemAttr)) (vs : List VariantDef) :
    accepts (.enum_ as vs) = none ↔ violatesSomeRule (.enum_ as vs) = false := by
  rw [violatesSomeRule_eq_false_iff]
  simp only [accepts, ite_some_eq_none, checkFields_variants, isUnion, itemAttrsOf, unknownItemKey,
    useDiscrOnStruct, tooManyVariants, useDiscrNotBool, explicitDiscrWithoutSetting, discrDoesNotFit,
    fieldsOf, true_and, Bool.not_eq_true, decide_eq_false_iff_not]
  -- the `match` in `accepts` has a matcher of its own: the lemma fits by unfolding, not by rewriting
  exact and_congr_right' (and_congr_right' (and_congr_right' settingRules_iff))

theorem C18_decision (d : ItemDef) : accepts d = none ↔ violatesSomeRule d = false := by
  cases d with
  | struct_ as fs => exact C18_decision_struct as fs
  | enum_ as vs => exact C18_decision_enum as vs
  | union_ => simp [accepts, violatesSomeRule, isUnion]

theorem C18_union_rejected : accepts .union_ = some .union_ := rfl

/-- an enum with any explicit discriminant and no `use_discriminant` setting is refused, wherever
the discriminant stands and whatever else the item carries (as long as the attributes parse) -/
theorem C18_explicit_discriminant_needs_setting (as : List (List ItemAttr)) (vs : List VariantDef)
    (h1 : as.length ≤ 1) (h2 : hasUnknownItemKey as = false) (h3 : vs.length ≤ 256)
    (hs : useDiscrSetting as.flatten = none) (hd : vs.any (fun v => v.discr.isSome) = true) :
    accepts (.enum_ as vs) = some .explicitDiscriminantWithoutSetting := by
  simp only [accepts, if_neg (Nat.not_lt.mpr h1), if_neg (Nat.not_lt.mpr h3), h2, hs, hd,
    Bool.false_eq_true, if_false, if_true]

theorem C18_too_many_variants (as : List (List ItemAttr)) (vs : List VariantDef)
    (h1 : as.length ≤ 1) (h2 : hasUnknownItemKey as = false) (h3 : 256 < vs.length) :
    accepts (.enum_ as vs) = some .tooManyVariants := by
  simp only [accepts, if_neg (Nat.not_lt.mpr h1), h2, if_pos h3, Bool.false_eq_true, if_false]

/-- with `use_discriminant = true` a discriminant outside 0..=255 — explicit **or implicit**
(previous + 1) — is refused (finding F7, repaired) -/
theorem C18_discriminant_must_fit (as : List (List ItemAttr)) (vs : List VariantDef)
    (h1 : as.length ≤ 1) (h2 : hasUnknownItemKey as = false) (h3 : vs.length ≤ 256)
    (hs : useDiscrSetting as.flatten = some (some true))
    (hd : (discriminants (vs.map (·.discr)) 0).any (fun x => x < 0 || 255 < x) = true) :
    accepts (.enum_ as vs) = some .discriminantOutOfRange := by
  simp only [accepts, if_neg (Nat.not_lt.mpr h1), if_neg (Nat.not_lt.mpr h3), h2, hs, hd,
    Bool.false_eq_true, if_false, Bool.true_and, if_true]

/-- the witness of F7: `enum A { X, Y = 255, Z }` under `use_discriminant = true` -/
theorem C18_F7_witness :
    accepts (.enum_ [[.useDiscriminant (some true)]] [⟨none, []⟩, ⟨some 255, []⟩, ⟨none, []⟩]) =
      some .discriminantOutOfRange := by
  decide

/-- the verdict does not depend on *where* the offending field stands -/
theorem C18_skip_conflict_position_independent (pre post : List FieldDef) (f : FieldDef)
    (hpre : ∀ g ∈ pre, checkField g = none) (hf : checkField f = some .skipConflict) :
    checkFields (pre ++ f :: post) = some .skipConflict := by
  rw [checkFields, List.findSome?_append, ← checkFields, (checkFields_none_iff pre).mpr hpre,
    Option.none_or, List.findSome?_cons, hf]

/-- non-vacuity: positive controls compile -/
example :
    accepts (.struct_ [[.init, .crate_]] [⟨[[.skip, .bound]]⟩, ⟨[[.serializeWith, .deserializeWith]]⟩, ⟨[]⟩]) = none ∧
    accepts (.enum_ [[.useDiscriminant (some true)]] [⟨none, []⟩, ⟨some 254, []⟩, ⟨none, [⟨[[.skip]]⟩]⟩]) = none ∧
    accepts (.enum_ [[.useDiscriminant (some false)]] [⟨some 70000, []⟩, ⟨some (-3), []⟩]) = none := by
  decide

end Borsh
