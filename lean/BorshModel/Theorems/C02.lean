/-
  C02 — Encoded bytes equal the Borsh specification encoding.
-/
import BorshModel.Lemmas.SpecRefine
import BorshModel.Canon
namespace Borsh

/-- For **every** type of the universe (sets, maps, deques, wrappers, derived items included)
and every value of it, `to_vec` produces exactly the bytes the specification function
`Spec.enc` prescribes, or refuses with the same class of refusal (NaN, more than 2^32-1
elements, zero-sized collection elements). -/
theorem C02_refines_spec (t : Ty) (v : Val) (hv : HasTy t v = true) :
    (toVec t v).toSpec = Spec.enc t v := by
  rw [toVec_toSpec]; exact refines_all t v hv

theorem C02_bytes (t : Ty) (v : Val) (bs : Bytes) (hv : HasTy t v = true)
    (h : toVec t v = .ok bs) : Spec.enc t v = .ok bs :=
  (toVec_ok_iff_enc hv).mp h

/-- NaN is refused instead of being encoded -/
theorem C02_nan_refused (k : FloatK) (b : Int) (h : isNanBits k b.toNat = true) :
    toVec (.float k) (.int b) = .err ⟨.invalidData, .nanSer⟩ := by
  simp [toVec, ser, h, Tr.fail, eNanSer]

/-- more than 2^32-1 elements are refused instead of being encoded -/
theorem C02_too_long_refused (t : Ty) (vs : List Val) (hz : memZero t = false)
    (h : 2 ^ 32 ≤ vs.length) :
    toVec (.seq .vec t) (.list vs) = .err ⟨.invalidData, .simple⟩ := by
  have : ¬ vs.length < 2 ^ 32 := Nat.not_lt.mpr h
  simp [toVec, ser, hz, SeqK.noFastPath, serLen, this, Tr.fail, Tr.andThen, eLenOverflow]

/-- the same for strings -/
theorem C02_too_long_string_refused (k : StrK) (bs : Bytes) (h : 2 ^ 32 ≤ bs.length) :
    toVec (.str k) (.blob bs) = .err ⟨.invalidData, .simple⟩ := by
  have : ¬ bs.length < 2 ^ 32 := Nat.not_lt.mpr h
  simp [toVec, ser, serLen, this, Tr.fail, Tr.andThen, eLenOverflow]

/-- non-vacuity: a map inside a struct inside an enum, spec and implementation agree byte for byte -/
example :
    let t := Ty.sum (.derived [69] false) [([65], 0, []), ([66], 7, [(some [109], false,
      .map .hashMap (.int .u16) (.str .string)), (some [115], true, .int .u64)])]
    let v := Val.variant 1 [.list [.list [.int 513, .blob [104]], .list [.int 2, .blob []]], .int 99]
    (HasTy t v && (toVec t v).okBytes [7, 2, 0, 0, 0, 2, 0, 0, 0, 0, 0, 1, 2, 1, 0, 0, 0, 104] &&
      (match Spec.enc t v with | .ok bs => bs == [7, 2, 0, 0, 0, 2, 0, 0, 0, 0, 0, 1, 2, 1, 0, 0, 0, 104] | _ => false)) = true := by
  decide

end Borsh
