/-
  C03 — Canonical encoding: equal values always produce identical bytes.
-/
import BorshModel.Lemmas.SpecRefine
import BorshModel.Lemmas.SortLaws
import BorshModel.Lemmas.Logical
import BorshModel.Theorems.C02
namespace Borsh

/-- owned / borrowed / boxed / ref-counted / cell wrapping is invisible on the wire -/
theorem C03_wrappers (k : WrapK) (t : Ty) (v : Val) : toVec (.wrap k t) v = toVec t v := by
  rw [toVec, ser]; rfl

/-- nested wrappers too -/
theorem C03_wrappers_nested (k₁ k₂ : WrapK) (t : Ty) (v : Val) :
    toVec (.wrap k₁ (.wrap k₂ t)) v = toVec t v := by
  rw [C03_wrappers, C03_wrappers]

/-- the bulk fast path for byte sequences delivers the same bytes as the per-element path -/
theorem C03_fast_path (vs : List Val) (h : ∀ v ∈ vs, HasTy (.int .u8) v = true) :
    (serMany (ser (.int .u8)) vs).Ok ∧
      (serMany (ser (.int .u8)) vs).bytes = (Tr.emit (valBytes vs)).bytes := by
  obtain ⟨hok, hb⟩ := serMany_u8_bytes vs h
  exact ⟨hok, hb.trans (Tr.emit_bytes _).symm⟩

/-- a `Vec<u8>` and a `LinkedList<u8>` (no fast path) of the same bytes encode identically -/
theorem C03_fast_path_toVec (vs : List Val) (h : ∀ v ∈ vs, HasTy (.int .u8) v = true) :
    toVec (.seq .linkedList (.int .u8)) (.list vs) = toVec (.seq .vec (.int .u8)) (.list vs) := by
  obtain ⟨hok, hb⟩ := serMany_u8_bytes vs h
  have key := Tr.andThen_congr (serLen vs.length) (hok.trans (Tr.emit_ok _).symm)
    (hb.trans (Tr.emit_bytes _).symm)
  unfold toVec
  simp only [ser, memZero, Bool.and_false, Bool.false_eq_true, if_false, SeqK.noFastPath, if_true,
    Ty.isU8]
  rw [key.1, key.2]

/-- the ring-buffer offset of a deque is invisible: any split into two slices encodes like the
contiguous one (in bytes and in refusals), via the specification function -/
theorem C03_deque_split (t : Ty) (a b : List Val)
    (ha : a.all (HasTy t) = true) (hb : b.all (HasTy t) = true) :
    (toVec (.seq .vecDeque t) (.deque a b)).toSpec =
      (toVec (.seq .vecDeque t) (.deque (a ++ b) [])).toSpec := by
  rw [C02_refines_spec _ _ (by simp [HasTy, ha, hb]),
    C02_refines_spec _ _ (by simp [HasTy, ha, hb, List.all_append])]
  simp [Spec.enc]

/-- `Vec<T>`, `[T]`, `Box<[T]>`, `Cow<[T]>`, `Rc<[T]>` of the same elements encode identically -/
theorem C03_seq_kinds (k : SeqK) (t : Ty) (vs : List Val) (hz : memZero t = false)
    (hk : k.noFastPath = false) :
    toVec (.seq k t) (.list vs) = toVec (.seq .vec t) (.list vs) := by
  simp only [toVec, ser, hz, Bool.and_false, Bool.false_eq_true, if_false, hk]
  rfl

/-- non-vacuity: a hash set in two iteration orders, a deque in two rotations -/
example :
    ((toVec (.set .hashSet (.int .u16)) (.list [.int 9, .int 2, .int 300])).okBytes
        [3, 0, 0, 0, 2, 0, 9, 0, 44, 1] &&
     (toVec (.set .hashSet (.int .u16)) (.list [.int 300, .int 9, .int 2])).okBytes
        [3, 0, 0, 0, 2, 0, 9, 0, 44, 1] &&
     (toVec (.seq .vecDeque (.int .u8)) (.deque [.int 1] [.int 2, .int 3])).okBytes [3, 0, 0, 0, 1, 2, 3] &&
     (toVec (.seq .vecDeque (.int .u8)) (.deque [.int 1, .int 2, .int 3] [])).okBytes [3, 0, 0, 0, 1, 2, 3]) = true := by
  decide

/-- a hash set encodes the same whatever order its (pairwise distinct) elements are iterated
in: insertion history, capacity, hasher state are invisible on the wire -/
theorem C03_hashSet_order_irrelevant (t : Ty) (vs ws : List Val)
    (hd1 : distinctKeys id vs = true) (hd2 : distinctKeys id ws = true)
    (hm : ∀ x, x ∈ vs ↔ x ∈ ws) :
    ser (.set .hashSet t) (.list vs) = ser (.set .hashSet t) (.list ws) := by
  simp only [ser, sortByKey_perm_invariant id vs ws hd1 hd2 hm]

/-- the same for hash maps (entries with pairwise distinct keys) -/
theorem C03_hashMap_order_irrelevant (kt vt : Ty) (es fs : List Val)
    (hd1 : distinctKeys entryKey es = true) (hd2 : distinctKeys entryKey fs = true)
    (hm : ∀ x, x ∈ es ↔ x ∈ fs) :
    ser (.map .hashMap kt vt) (.list es) = ser (.map .hashMap kt vt) (.list fs) := by
  simp only [ser, sortByKey_perm_invariant entryKey es fs hd1 hd2 hm]

/-- a hash set and the ordered set with the same elements encode identically -/
theorem C03_hashSet_eq_btreeSet (t : Ty) (vs ws : List Val)
    (hd : distinctKeys id vs = true) (hs : strictlyAscending id ws = true)
    (hm : ∀ x, x ∈ vs ↔ x ∈ ws) :
    ser (.set .hashSet t) (.list vs) = ser (.set .btreeSet t) (.list ws) := by
  have : sortByKey id vs = ws :=
    sa_unique id _ _ (sortByKey_sa id vs hd) hs (fun x => by rw [mem_sortByKey]; exact hm x)
  simp only [ser, this]

/-- non-vacuity: two iteration orders of {1, 2, 3} -/
example :
    (distinctKeys id [.int 3, .int 1, .int 2] && distinctKeys id [.int 2, .int 3, .int 1] &&
     (toVec (.set .hashSet (.int .u8)) (.list [.int 3, .int 1, .int 2])).okBytes [3, 0, 0, 0, 1, 2, 3] &&
     (toVec (.set .hashSet (.int .u8)) (.list [.int 2, .int 3, .int 1])).okBytes [3, 0, 0, 0, 1, 2, 3]) = true := by
  decide

/-- **Canonical encoding, whole universe**: two representations of the same logical value
(`Eqv`: the members of every hash set and hash map in any iteration order, every deque in any
ring-buffer split, anything in skipped fields — at any nesting depth, under any wrappers) are
serialized to identical bytes, or refused for the same reason. -/
theorem C03_canonical (t : Ty) (v w : Val) (hv : HasTy t v = true) (hw : HasTy t w = true)
    (h : Eqv t v w) : (toVec t v).toSpec = (toVec t w).toSpec := by
  rw [C02_refines_spec t v hv, C02_refines_spec t w hw]
  exact eqv_enc t v w h

/-- … stated on the bytes -/
theorem C03_canonical_bytes (t : Ty) (v w : Val) (bs : Bytes) (hv : HasTy t v = true)
    (hw : HasTy t w = true) (h : Eqv t v w) (he : toVec t v = .ok bs) : toVec t w = .ok bs :=
  (toVec_ok_iff_enc hw).mpr (eqv_enc t v w h ▸ (toVec_ok_iff_enc hv).mp he)

/-- the relation is inhabited exactly where the typing is: every well-typed representation is a
representation of its own logical value (so "repeated serialization gives the same bytes" is the
diagonal of `C03_canonical`, and the distinct-members side conditions are those of `HasTy`) -/
theorem C03_eqv_refl (t : Ty) (v : Val) (hv : HasTy t v = true) : Eqv t v v := eqv_refl t v hv

/-- non-vacuity: `HashMap<u8, (HashSet<u16>, VecDeque<u8>)>` — entries in two iteration orders, the
inner sets in two orders, the deques in two rotations -/
example :
    let t := Ty.map .hashMap (.int .u8) (Ty.tuple [.set .hashSet (.int .u16), .seq .vecDeque (.int .u8)])
    let v := Val.list [.list [.int 7, .list [.list [.int 300, .int 2], .deque [.int 1] [.int 2, .int 3]]],
                       .list [.int 1, .list [.list [.int 5], .deque [] []]]]
    let w := Val.list [.list [.int 1, .list [.list [.int 5], .deque [] []]],
                       .list [.int 7, .list [.list [.int 2, .int 300], .deque [.int 1, .int 2] [.int 3]]]]
    Eqv t v w ∧ HasTy t v = true ∧ HasTy t w = true ∧
      (toVec t v).okBytes [2, 0, 0, 0, 1, 1, 0, 0, 0, 5, 0, 0, 0, 0, 0, 7, 2, 0, 0, 0, 2, 0, 44, 1, 3, 0, 0, 0, 1, 2, 3] = true := by
  -- `Eqv` and `entryRel` unfold by computation on these literals, so every component is checked up
  -- to `rfl`; `simp` would first have to derive their equations, which is slow
  have swap : ∀ a b x : Val, x ∈ [a, b] ↔ x ∈ [b, a] := by
    intro a b x; simp only [List.mem_cons, List.not_mem_nil, or_false]; exact or_comm
  refine ⟨?_, by decide +kernel, by decide +kernel, by decide +kernel⟩
  -- the witness: the entries in `v`'s order, their values as `w` represents them; the side
  -- conditions `distinctKeys … = true` hold by computation
  refine ⟨[.list [.int 7, .list [.list [.int 2, .int 300], .deque [.int 1, .int 2] [.int 3]]],
           .list [.int 1, .list [.list [.int 5], .deque [] []]]],
    ?_, rfl, rfl, swap _ _⟩
  exact ⟨⟨rfl, Or.inr ⟨rfl, rfl, swap _ _⟩, Or.inr ⟨rfl, rfl, rfl, trivial⟩, trivial⟩,
    ⟨rfl, Or.inr ⟨rfl, rfl, fun _ => Iff.rfl⟩, Or.inr trivial, trivial⟩, trivial⟩

end Borsh
