/-
  C09 — max_serialized_size is a sound and exact upper bound.
-/
import BorshModel.Lemmas.MaxSize
import BorshModel.Lemmas.Totality
import BorshModel.Lemmas.MaxSound
import BorshModel.Lemmas.MaxTight
import BorshModel.Theorems.C08
namespace Borsh

/-- Exactness: whenever a maximum is reported for a container it *is* the true maximum the
schema implies (sum over fields, largest variant plus tag, largest count times element size plus
length prefix, at every nesting level), for every container — cycles, dangling names and
hostile widths included. -/
theorem C09_exact_when_ok (c : Container) (n : Nat) (h : c.maxSerializedSize = .ok n) :
    c.specMax = .fin n := by
  obtain ⟨m, hm, hn⟩ := maxSize_exact c _ 1 c.decl [] n h
  rw [Container.specMax, hm, hn, Nat.one_mul]

/-- … and it fits the address space -/
theorem C09_ok_fits (c : Container) (fuel count : Nat) (d : Name) (path : List Name) (n : Nat)
    (h : maxSize c fuel count d path = .ok n) (hc : 0 < count) :
    ∃ m, specMax c fuel d path = .fin m ∧ n = count * m ∧ m ≤ n := by
  obtain ⟨m, hm, hn⟩ := maxSize_exact c fuel count d path n h
  refine ⟨m, hm, hn, ?_⟩
  rw [hn]; exact Nat.le_mul_of_pos_left m hc

/-- the multiplier scales the answer: for one declaration, fuel and stack, what is reported under
`count` is `count` times what is reported under 1 -/
theorem C09_count_scales (c : Container) (fuel count : Nat) (d : Name) (path : List Name) (n₁ n : Nat)
    (h1 : maxSize c fuel 1 d path = .ok n₁) (h : maxSize c fuel count d path = .ok n) :
    n = count * n₁ := by
  obtain ⟨m, hm, hn⟩ := maxSize_exact c fuel count d path n h
  obtain ⟨m₁, hm₁, hn₁⟩ := maxSize_exact c fuel 1 d path n₁ h1
  cases hm.symm.trans hm₁
  rw [hn, hn₁, Nat.one_mul]

/-- the analysis adds and multiplies checked: the exact result or the `Overflow` error, never a
wrapped-around number and never an arithmetic panic -/
theorem C09_checked_arith (x y : Nat) :
    (cAdd x y = .ok (x + y) ∨ cAdd x y = .error .overflow) ∧
    (cMul x y = .ok (x * y) ∨ cMul x y = .error .overflow) := by
  exact ⟨(Decidable.em (x + y < usizeLimit)).imp (if_pos ·) (if_neg ·),
    (Decidable.em (x * y < usizeLimit)).imp (if_pos ·) (if_neg ·)⟩

/-- Regression witness of finding F1 (repaired): `[Option<u8>; 10]` — an array of an enum — has
maximum 20, not 2. -/
theorem C09_F1_array_of_enum :
    (Container.maxSerializedSize ⟨[65],
      [([40, 41], .primitive 0), ([65], .sequence 0 10 10 [66]),
       ([66], .enum 1 [(0, [78], [40, 41]), (1, [83], [117])]), ([117], .primitive 1)]⟩) = .ok 20 := by
  decide

/-- non-vacuity: overflow, recursion and a dangling name are each reported -/
example :
    (Container.maxSerializedSize ⟨[65], [([65], .sequence 8 0 (2 ^ 64 - 1) [117]), ([117], .primitive 2)]⟩
        = .error .overflow) ∧
    (Container.maxSerializedSize ⟨[65], [([65], .tuple [[65]])]⟩ = .error .recursive) ∧
    (Container.maxSerializedSize ⟨[65], [([65], .tuple [[66]])]⟩ = .error (.missing [66])) := by
  decide +kernel

/-- **The computation never panics and never diverges**: on every container — cycles, dangling
names, hostile widths — `max_serialized_size` returns a bound or one of its three errors.  (The
model's only panic is fuel exhaustion; the stack of declarations is duplicate-free and made of
defined names, so `|definitions| + 1` levels always suffice.) -/
theorem C09_never_panics (c : Container) : c.maxSerializedSize.isPanic = false :=
  maxSize_noPanic c (c.defs.length + 1) 1 c.decl [] (pathOk_nil c) (Nat.le_add_left _ _)

/-- Completeness: whenever the true maximum the schema implies is finite and fits the address
space, it is reported — no spurious Overflow, Recursion or MissingDefinition error. -/
theorem C09_complete (c : Container) (n : Nat) (h : c.specMax = .fin n) (hn : n < usizeLimit) :
    c.maxSerializedSize = .ok n := by
  rw [Container.maxSerializedSize, maxSize_complete c _ 1 c.decl [] n h Nat.one_pos (by rwa [Nat.one_mul]),
    Nat.one_mul]

/-- **Exact characterisation**: a bound is reported iff the true maximum is finite and fits the
address space, and then it is that maximum.  Since the analysis never panics
(`C09_never_panics`), an error is reported exactly in the remaining cases: the true maximum
exceeds the address space, is unbounded (a cycle is reachable), or a reachable definition is
absent. -/
theorem C09_ok_iff (c : Container) (n : Nat) :
    c.maxSerializedSize = .ok n ↔ (c.specMax = .fin n ∧ n < usizeLimit) := by
  constructor
  · intro h
    obtain ⟨m, _, _, hlt⟩ := maxSize_ok c _ 1 c.decl [] n h
    exact ⟨C09_exact_when_ok c n h, hlt⟩
  · rintro ⟨h, hn⟩; exact C09_complete c n h hn

/-- an error means there is no representable bound -/
theorem C09_error_iff (c : Container) :
    (∃ e, c.maxSerializedSize = .error e) ↔ ¬ ∃ n, c.specMax = .fin n ∧ n < usizeLimit := by
  constructor
  · rintro ⟨e, he⟩ ⟨n, hn, hl⟩
    rw [C09_complete c n hn hl] at he; cases he
  · intro h
    exact (Res.ok_or_error (C09_never_panics c)).resolve_left fun ⟨k, hr⟩ => h ⟨k, (C09_ok_iff c k).mp hr⟩

/-- **Soundness, every container**: whenever a maximum is reported, no byte string the schema
describes (a reader that knows only the container walks it exactly to its end) is longer — for
every container, hostile ones included.  `specMax`, the executable specification the exactness
theorems speak about, is thereby an upper bound on *values*, not just a formula. -/
theorem C09_sound_container (c : Container) (n : Nat) (bs : Bytes)
    (hm : c.maxSerializedSize = .ok n) (hd : c.describes bs) : bs.length ≤ n := by
  obtain ⟨fuel, hf⟩ := hd
  have hs := C09_exact_when_ok c n hm
  exact Nat.zero_add n ▸ (sdec_bound c fuel c.decl (c.defs.length + 1) [] bs [] hf).2 n hs

/-- Soundness on a stream: when other data follows the value, the walk consumes at most the reported
maximum -/
theorem C09_sound_stream (c : Container) (n fuel : Nat) (bs rest : Bytes)
    (hm : c.maxSerializedSize = .ok n) (hf : sdec c fuel c.decl bs = some rest) :
    rest.length ≤ bs.length ∧ bs.length - rest.length ≤ n := by
  have hs := C09_exact_when_ok c n hm
  obtain ⟨l, b⟩ := sdec_bound c fuel c.decl (c.defs.length + 1) [] bs rest hf
  exact ⟨l, Nat.sub_le_of_le_add (Nat.add_comm _ _ ▸ b n hs)⟩

/-- **Soundness for Rust types**: if the container binds every declaration of `t` as the schema
impls intend (`Bnd`; `C08_coherent_bound` derives this from `for_type` for every name-coherent
type), then no value of `t` serializes to more bytes than the reported maximum. -/
theorem C09_sound_types (c : Container) (t : Ty) (hs : shapeOk t = true) (hw : WfTy t = true)
    (hb : Bnd c t) (hd : c.decl = declOf t) (n : Nat) (hm : c.maxSerializedSize = .ok n)
    (v : Val) (bs : Bytes) (hv : HasTy t v = true) (he : toVec t v = .ok bs) : bs.length ≤ n :=
  C09_sound_container c n bs hm (C08_describes_of_bound c t hs hw hb hd v bs hv he)

/-- **`max_serialized_size::<T>()` is sound for every name-coherent Rust type**, derived structs and
enums included: whatever maximum is reported for the container `for_type::<T>` generates, no value of
`T` serializes to more bytes (end to end: `schemaOf`, `maxSerializedSize`, `toVec`). -/
theorem C09_sound_rust_types (t : Ty) (hc : coherentB t = true) (hs : shapeOk t = true)
    (hw : WfTy t = true) (c : Container) (h : schemaOf t = .ok c) (n : Nat)
    (hm : c.maxSerializedSize = .ok n) (v : Val) (bs : Bytes) (hv : HasTy t v = true)
    (he : toVec t v = .ok bs) : bs.length ≤ n := by
  obtain ⟨hb, hd⟩ := schemaOf_bnd t c (coherentB_sound t hc) h
  exact C09_sound_types c t hs hw hb hd n hm v bs hv he

/-- non-vacuity: the container of `Vec<Option<u16>>`-like shape with a bounded range reports 1 + 3·3
and a described string of that length exists -/
example :
    let c : Container := ⟨[65], [([65], .sequence 1 0 3 [66]),
       ([66], .enum 1 [(0, [78], [40]), (1, [83], [117])]), ([40], .primitive 0), ([117], .primitive 2)]⟩
    c.maxSerializedSize = .ok 10 ∧ sdec c 4 [65] [3, 1, 7, 7, 1, 8, 8, 1, 9, 9] = some [] := by
  decide +kernel

/-- **Tightness**: for a container whose definitions can all be read (`readable`: non-empty enums
with distinct discriminants that fit the tag width, length ranges that fit the length width, untagged
sequences of a single length — the containers Rust types generate are expected to be of this kind;
that is not proved here, the harness checks it type by type), the reported maximum is attained:
some byte string of exactly that length is described by the schema. -/
theorem C09_tight (c : Container) (hr : c.readable = true) (n : Nat)
    (hm : c.maxSerializedSize = .ok n) : ∃ bs : Bytes, c.describes bs ∧ bs.length = n := by
  have hs := C09_exact_when_ok c n hm
  obtain ⟨bs, f, hl, hp⟩ := specMax_attained c hr _ c.decl [] n hs
  exact ⟨bs, Parses.describes rfl (hp f (Nat.le_refl f)), hl⟩

/-- **The reported bound is the true maximum**: an upper bound on every described byte string
(any container) that is attained (readable containers). -/
theorem C09_is_maximum (c : Container) (hr : c.readable = true) (n : Nat)
    (hm : c.maxSerializedSize = .ok n) :
    (∀ bs : Bytes, c.describes bs → bs.length ≤ n) ∧ (∃ bs : Bytes, c.describes bs ∧ bs.length = n) :=
  ⟨fun bs hd => C09_sound_container c n bs hm hd, C09_tight c hr n hm⟩

/-- non-vacuity: the containers of `Vec<Option<u16>>`-like shapes are readable; an enum with a
repeated discriminant is not -/
example :
    (Container.readable ⟨[65], [([65], .sequence 4 0 (2 ^ 32 - 1) [66]),
       ([66], .enum 1 [(0, [78], [40]), (1, [83], [117])]), ([40], .primitive 0), ([117], .primitive 2)]⟩ = true) ∧
    (Container.readable ⟨[66], [([66], .enum 1 [(0, [78], [40]), (0, [83], [117])])]⟩ = false) := by
  decide +kernel

end Borsh
