/-
  C07 — Decoding untrusted bytes is safe: no panic, bounded memory and work.
-/
import BorshModel.Lemmas.Safe
import BorshModel.Lemmas.Work
import BorshModel.Cost
import BorshModel.Canon
namespace Borsh

/-- **Totality.** For every type of the universe and every byte string, decoding from a slice
returns `Ok` or `Err`: the model has no reachable panic site (slice indexing, `unwrap`,
`unreachable!`, loop fuel). -/
theorem C07_no_panic (st : Bool) (t : Ty) (bs : Bytes) : (deserialize st t bs).isPanic = false :=
  (de_safe_all t st bs).not_panic

theorem C07_no_panic_from_slice (st : Bool) (t : Ty) (bs : Bytes) : (fromSlice st t bs).isPanic = false :=
  (fromSlice_safe st t bs).not_panic

/-- a successful decode consumes a prefix of its input, at least `minWire t` bytes long -/
theorem C07_consumes (st : Bool) (t : Ty) (bs rest : Bytes) (v : Val)
    (h : deserialize st t bs = .ok (v, rest)) :
    ∃ c, bs = c ++ rest ∧ minWire t ≤ c.length :=
  de_cons_all t st bs v rest h

/-- **Work bound.** If the elements of a sequence occupy at least one byte on the wire, the
number of elements a `Vec<T>` decode produces is bounded by the input length (minus the four
bytes of the prefix): a length prefix cannot make the decoder do more element decodes than
there are input bytes. -/
theorem C07_work_bound (st : Bool) (t : Ty) (bs rest : Bytes) (vs : List Val)
    (hm : 1 ≤ minWire t) (hu : t.isU8 = true → minWire t = 1)
    (h : deVec Rd.slice t.isU8 (de Rd.slice st t) bs = .ok (vs, rest)) :
    4 + vs.length ≤ bs.length := by
  obtain ⟨c, e, l⟩ := deVec_cons (de_cons_all t st) bs vs rest (deVec_slice st t bs ▸ h)
  rw [e, List.length_append]
  exact Nat.le_trans (Nat.add_le_add_left (Nat.le_mul_of_pos_right _ hm) 4)
    (Nat.le_trans l (Nat.le_add_right _ _))

/-- **A length prefix alone never causes a proportional allocation** (byte vectors, strings):
every buffer request is at most 1 MiB or twice the bytes actually present in the input. -/
theorem C07_bulk_alloc (len avail : Nat) :
    ∀ c ∈ bulkRequests len avail, c ≤ max (2 ^ 20) (2 * avail) :=
  bulkRequests_bound len avail

/-- the `Vec<T>` capacity hint requests at most 4096 bytes (or one element), whatever the
claimed length -/
theorem C07_capacity_hint (elSize hint n : Nat) (h : cautious elSize hint = .ok n) (hs : elSize < 2 ^ 32) :
    1 ≤ n ∧ n * elSize ≤ max 4096 elSize :=
  cautious_bound elSize hint n h hs

/-- non-vacuity: 0xFFFFFFFF as the length of a byte vector with 3 bytes of payload: refused,
and the only allocation the loop makes is the 1 MiB initial buffer -/
example :
    (fromSlice false (.seq .vec (.int .u8)) [255, 255, 255, 255, 1, 2, 3]).errIs ⟨.invalidData, .unexpectedLength⟩ = true ∧
    bulkRequests (2 ^ 32 - 1) 3 = [2 ^ 20] := by
  constructor
  · decide +kernel
  · decide +kernel

/-- **Composed bound, whole universe**: for every type all of whose collection elements occupy at
least one byte on the wire (`occ`: the property's hypothesis, at every nesting level), every byte
string and both key-order modes, the decoded value — every element of every nested collection, every
byte of every string — has at most `costA t + costB t · (bytes consumed)` nodes, where the two
constants depend on the type only.  So the number of elements decoded, and the memory the result
retains, are linear in the input length: a length prefix alone buys nothing. -/
theorem C07_value_size_bound (st : Bool) (t : Ty) (bs rest : Bytes) (v : Val) (ho : occ t = true)
    (h : deserialize st t bs = .ok (v, rest)) :
    rest.length ≤ bs.length ∧ v.nodes ≤ costA t + costB t * (bs.length - rest.length) :=
  work_all t ho st bs v rest h

/-- … in terms of the whole input -/
theorem C07_value_size_linear (st : Bool) (t : Ty) (bs rest : Bytes) (v : Val) (ho : occ t = true)
    (h : deserialize st t bs = .ok (v, rest)) : v.nodes ≤ costA t + costB t * bs.length := by
  obtain ⟨_, w⟩ := C07_value_size_bound st t bs rest v ho h
  exact Nat.le_trans w (Nat.add_le_add_left (Nat.mul_le_mul_left _ (Nat.sub_le _ _)) _)

/-- non-vacuity: `Vec<(String, Option<BTreeMap<u8, Vec<u16>>>)>` meets the hypothesis, with constants
1 and 9; `Vec<()>`-like element types do not -/
example :
    let t := Ty.seq .vec (Ty.tuple [.str .string,
      Ty.option (.map .btreeMap (.int .u8) (.seq .vec (.int .u16)))])
    (occ t = true ∧ costA t = 1 ∧ costB t = 9) ∧ occ (.seq .vec (Ty.tuple [])) = false := by
  decide +kernel

end Borsh
