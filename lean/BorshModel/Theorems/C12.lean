/-
  C12 — Serialization is independent of the writer and transparent to its failures.
-/
import BorshModel.Canon
import BorshModel.Lemmas.ScriptWrite
import BorshModel.Lemmas.AnyWriter
namespace Borsh

theorem runTraceLen_eq (cs : List Bytes) (status : Out Unit) (n : Nat)
    (h : n + cs.flatten.length < 2 ^ 64) :
    runTraceLen cs status n = status.map fun _ => n + cs.flatten.length := by
  induction cs generalizing n with
  | nil => rfl
  | cons c cs ih =>
    rw [List.flatten_cons, List.length_append, ← Nat.add_assoc] at h ⊢
    rw [runTraceLen, if_pos (Nat.lt_of_le_of_lt (Nat.le_add_right _ _) h), ih _ h]

/-- `object_length` returns exactly the length of the encoding, with the same refusals -/
theorem C12_object_length (t : Ty) (v : Val) (h : (ser t v).bytes.length < 2 ^ 64) :
    objectLength t v = (ser t v).status.map fun _ => (ser t v).bytes.length := by
  rw [objectLength, runTraceLen_eq _ _ 0 (by rw [Nat.zero_add]; exact h), Nat.zero_add]
  rfl

theorem C12_object_length_ok (t : Ty) (v : Val) (bs : Bytes) (h : toVec t v = .ok bs)
    (hl : bs.length < 2 ^ 64) : objectLength t v = .ok bs.length := by
  obtain ⟨u, hs, rfl⟩ := Out.map_eq_ok_iff.mp h
  rw [C12_object_length t v hl, hs]
  rfl

theorem fixedWriteAll_eq (c w : Bytes) (room : Nat) :
    fixedWriteAll c (w, room) =
      if c.length ≤ room then ((w ++ c, room - c.length), .ok ())
      else ((w ++ c.take room, 0), .err eWriteZero) := by
  simp only [fixedWriteAll]
  by_cases h : c.length ≤ room
  · rw [if_pos h, Nat.min_eq_left h, List.take_length, beq_self_eq_true, if_pos rfl]
  · have h' := Nat.lt_of_not_le h
    rw [if_neg h, Nat.min_eq_right (Nat.le_of_lt h'), Nat.sub_self, beq_false_of_ne (Nat.ne_of_lt h'),
      if_neg Bool.false_ne_true]

theorem runTraceFixed_eq (cs : List Bytes) (status : Out Unit) (w : Bytes) (room : Nat) :
    runTraceFixed cs status (w, room) =
      if cs.flatten.length ≤ room then ((w ++ cs.flatten, room - cs.flatten.length), status)
      else ((w ++ cs.flatten.take room, 0), .err eWriteZero) := by
  induction cs generalizing w room with
  | nil => simp [runTraceFixed]
  | cons c cs ih =>
    rw [runTraceFixed, fixedWriteAll_eq, List.flatten_cons, List.length_append]
    by_cases hc : c.length ≤ room
    · simp only [if_pos hc, ih, List.append_assoc]
      by_cases h : cs.flatten.length ≤ room - c.length
      · rw [if_pos h, if_pos (Nat.add_le_of_le_sub' hc h), Nat.sub_add_eq]
      · rw [if_neg h, if_neg fun h' => h (Nat.le_sub_of_add_le' h'), List.take_append,
          List.take_of_length_le hc]
    · rw [if_neg hc, if_neg fun h' => hc (Nat.le_trans (Nat.le_add_right _ _) h'),
        List.take_append_of_le_length (Nat.le_of_lt (Nat.lt_of_not_le hc))]

/-- A buffer of exactly the right size (or larger) is filled with the encoding; a smaller one
receives the first `cap` bytes and the call fails with `WriteZero` — never a panic. -/
theorem C12_fixed_buffer (cap : Nat) (t : Ty) (v : Val) :
    toFixedBuffer cap t v =
      if (ser t v).bytes.length ≤ cap then
        (((ser t v).bytes, cap - (ser t v).bytes.length), (ser t v).status)
      else (((ser t v).bytes.take cap, 0), .err ⟨.writeZero, .writeZeroMsg⟩) :=
  runTraceFixed_eq (ser t v).chunks (ser t v).status [] cap

/-- **Writer independence.** However the writer splits writes (any chunk pattern, down to one
byte at a time) and wherever transient `Interrupted` results occur, a writer that does not stop
inside the encoding receives exactly the bytes of the encoding, in order, and the result is the
serializer's own status. -/
theorem C12_delivers_encoding (sc : Script) (intr : List (Nat × Nat)) (t : Ty) (v : Val)
    (hkind : ∀ k kd id, sc.stop = some (k, .fail kd id) → kd ≠ .interrupted)
    (hstop : ∀ k st, sc.stop = some (k, st) → (ser t v).bytes.length ≤ k) :
    ∃ w', toWriterScript sc intr t v = (w', (ser t v).status) ∧ w'.delivered = (ser t v).bytes := by
  -- the horizon: the stop if there is one, else the end of the encoding (no error is met there:
  -- `eWriteZero` only fills the place)
  obtain ⟨K, E, hor, hK⟩ : ∃ K E, WHorizon sc K E ∧ (ser t v).bytes.length ≤ K := by
    cases hs : sc.stop with
    | none =>
      exact ⟨_, eWriteZero, ⟨fun _ _ h => (by rw [hs] at h; cases h), by decide⟩, Nat.le_refl _⟩
    | some ks => exact ⟨ks.1, _, .of_stop hkind hs, hstop _ ks.2 hs⟩
  obtain ⟨w', h1, h2⟩ := toWriterScript_upTo hor intr t v (.inl hK)
  exact ⟨w', h1.trans (by rw [if_pos hK]), h2.trans (List.take_of_length_le hK)⟩

/-- **Transparency to failures.** If the writer fails (any kind and message) or reports
`Ok(0)` after `k` bytes, `k` inside the encoding, serialization returns exactly that error —
kind and message unchanged, `WriteZero` for `Ok(0)` — and the bytes delivered so far are the
first `k` bytes of the encoding. -/
theorem C12_prefix_on_failure (sc : Script) (intr : List (Nat × Nat)) (t : Ty) (v : Val) (k : Nat) (st : Stop)
    (hkind : ∀ k kd id, sc.stop = some (k, .fail kd id) → kd ≠ .interrupted)
    (hs : sc.stop = some (k, st)) (hk : k < (ser t v).bytes.length) :
    ∃ w', toWriterScript sc intr t v = (w', .err (stopErr st)) ∧
      w'.delivered = (ser t v).bytes.take k := by
  obtain ⟨w', h1, h2⟩ := toWriterScript_upTo (.of_stop hkind hs) intr t v (.inr (by rw [hs]; rfl))
  exact ⟨w', h1.trans (by rw [if_neg (Nat.not_le_of_lt hk)]), h2⟩

/-- the error is the writer's own: kind and payload of a hard failure, `WriteZero` for `Ok(0)` -/
theorem C12_error_unchanged (kd : Kind) (id : Nat) :
    stopErr (.fail kd id) = ⟨kd, .user id⟩ ∧ stopErr .zero = ⟨.writeZero, .writeZeroMsg⟩ := ⟨rfl, rfl⟩

/-- non-vacuity: every capacity 0..len+1 for a small value -/
example :
    let t := Ty.prod .tuple [(none, false, .int .u16), (none, false, .str .string)]
    let v := Val.list [.int 258, .blob [120]]
    ((toVec t v).okBytes [2, 1, 1, 0, 0, 0, 120] &&
     (List.range 9).all (fun cap =>
       let r := toFixedBuffer cap t v
       if cap ≥ 7 then r.1.1 == [2, 1, 1, 0, 0, 0, 120] && r.1.2 == cap - 7 && r.2.isOk
       else r.1.1 == [2, 1, 1, 0, 0, 0, 120].take cap && r.2.errIs eWriteZero)) = true := by
  decide +kernel

/-- `borsh::to_writer` into an arbitrary writer that honours the `io::Write` contract -/
def toWriterAny {ω : Type} (W : AnyWriter ω) (t : Ty) (v : Val) (w : ω) : ω × Out Unit :=
  runTraceAny W (ser t v).chunks (ser t v).status w

/-- **Writer independence, in general**: whatever the writer is — however it splits, buffers,
retries or fails, as long as a successful `write_all` delivered its buffer and a failed one a
prefix of it — what reaches the sink is always a prefix of the encoding, in order; and if
serialization returns `Ok` the sink received exactly the encoding (which is what `to_vec` gives). -/
theorem C12_any_writer {ω : Type} (W : AnyWriter ω) (t : Ty) (v : Val) (w : ω) :
    (∃ k, k ≤ (ser t v).bytes.length ∧
      W.delivered (toWriterAny W t v w).1 = W.delivered w ++ (ser t v).bytes.take k) ∧
    ((toWriterAny W t v w).2 = .ok () →
      W.delivered (toWriterAny W t v w).1 = W.delivered w ++ (ser t v).bytes ∧
      toVec t v = .ok (ser t v).bytes) := by
  obtain ⟨h1, h2⟩ := runTraceAny_spec W (ser t v).chunks (ser t v).status w
  exact ⟨h1, fun h => ⟨(h2 h).1, by rw [toVec, (h2 h).2]; rfl⟩⟩

/-- the growable vector as an instance: `to_writer(&mut Vec)` appends exactly the encoding -/
def AnyWriter.vec : AnyWriter Bytes where
  writeAll b w := (w ++ b, .ok ())
  delivered w := w
  ok_all := by intro b w w' h; cases h; rfl
  fail_prefix := by intro b w w' r h hr; cases h; exact absurd rfl hr

/-- a sink that accepts `room` more bytes and then reports `WriteZero` (`&mut [u8]`) as an instance -/
def AnyWriter.fixed : AnyWriter (Bytes × Nat) where
  writeAll := fun b st => fixedWriteAll b st
  delivered st := st.1
  ok_all := by
    intro b w w' h
    obtain ⟨written, room⟩ := w
    simp only [fixedWriteAll, Prod.mk.injEq] at h
    obtain ⟨h1, h2⟩ := h
    split at h2
    · rename_i hn
      have : min b.length room = b.length := by simpa using hn
      rw [← h1]; simp [this]
    · cases h2
  fail_prefix := by
    intro b w w' r h _
    obtain ⟨written, room⟩ := w
    simp only [fixedWriteAll, Prod.mk.injEq] at h
    exact ⟨min b.length room, Nat.min_le_left _ _, by rw [← h.1]⟩

/-- the `write_all` loop over **any** script (any chunking, interrupts, `Ok(0)` or a hard failure
anywhere): what reaches the sink is a prefix of the buffer, all of it when the loop returns `Ok` -/
theorem writeAllLoop_prefix (sc : Script) : ∀ (fuel : Nat) (buf : Bytes) (w : WState),
    ∃ k, k ≤ buf.length ∧ (writeAllLoop sc fuel buf w).1.delivered = w.delivered ++ buf.take k ∧
      ((writeAllLoop sc fuel buf w).2 = .ok () → k = buf.length) := by
  intro fuel
  induction fuel with
  | zero => exact fun buf w => ⟨0, Nat.zero_le _, (List.append_nil _).symm, nofun⟩
  | succ fuel ih =>
    intro buf w
    by_cases hb : buf = []
    · subst hb; exact ⟨0, Nat.le_refl _, (List.append_nil _).symm, fun _ => rfl⟩
    · rw [writeAllLoop, if_neg (by rwa [List.isEmpty_iff])]
      cases hw : scriptWrite sc buf w with
      | ok r =>
        obtain ⟨n, w'⟩ := r
        obtain ⟨hn, hd⟩ := scriptWrite_delivers hw
        by_cases hz : n = 0
        · subst hz
          exact ⟨0, Nat.zero_le _, hd, nofun⟩
        · simp only [beq_false_of_ne hz, Bool.false_eq_true, if_false]
          obtain ⟨k, hk, hdk, hok⟩ := ih (buf.drop n) w'
          rw [List.length_drop] at hk hok
          refine ⟨n + k, Nat.add_le_of_le_sub' hn hk, ?_, fun h => by rw [hok h, Nat.add_sub_cancel' hn]⟩
          rw [hdk, hd, List.append_assoc, List.take_add]
      | err e =>
        by_cases hi : e.kind = .interrupted
        · simp only [hi, if_true]
          exact ih buf (afterIntrW w)
        · simp only [hi, if_false]
          exact ⟨0, Nat.zero_le _, (List.append_nil _).symm, nofun⟩
      | panic p => exact ⟨0, Nat.zero_le _, (List.append_nil _).symm, nofun⟩

theorem writeAll_prefix {sc : Script} {b : Bytes} {w w' : WState} {r : Out Unit}
    (h : writeAll sc b w = (w', r)) :
    ∃ k, k ≤ b.length ∧ w'.delivered = w.delivered ++ b.take k ∧ (r = .ok () → k = b.length) := by
  have := writeAllLoop_prefix sc (b.length + totalPending w.intr + 1) b w
  rwa [show writeAllLoop sc _ b w = _ from h] at this

/-- **every scripted writer honours the `io::Write` contract**: `C12_any_writer` applies to it without
further hypotheses -/
def AnyWriter.script (sc : Script) : AnyWriter WState where
  writeAll b w := Borsh.writeAll sc b w
  delivered w := w.delivered
  ok_all := by
    intro b w w' h
    obtain ⟨k, _, hd, hok⟩ := writeAll_prefix h
    rw [hd, hok rfl, List.take_length]
  fail_prefix := by
    intro b w w' r h _
    obtain ⟨k, hk, hd, _⟩ := writeAll_prefix h
    exact ⟨k, hk, hd⟩

theorem runTrace_eq_any (sc : Script) : ∀ (cs : List Bytes) (st : Out Unit) (w : WState),
    runTrace sc cs st w = runTraceAny (AnyWriter.script sc) cs st w := by
  intro cs
  induction cs with
  | nil => intro st w; rfl
  | cons c cs ih =>
    intro st w
    have hwa : (AnyWriter.script sc).writeAll c w = Borsh.writeAll sc c w := rfl
    simp only [runTrace, runTraceAny, hwa]
    cases hw : Borsh.writeAll sc c w with
    | mk w' r =>
      cases r with
      | ok u => cases u; simp only; exact ih st w'
      | err e => rfl
      | panic p => rfl

/-- **C12 for every scripted writer, unconditionally**: whatever the script does, the bytes that
reached the sink are a prefix of the encoding, and `Ok` means the whole encoding arrived -/
theorem C12_script_prefix (sc : Script) (intr : List (Nat × Nat)) (t : Ty) (v : Val) :
    (∃ k, k ≤ (ser t v).bytes.length ∧
      (toWriterScript sc intr t v).1.delivered = (ser t v).bytes.take k) ∧
    ((toWriterScript sc intr t v).2 = .ok () →
      (toWriterScript sc intr t v).1.delivered = (ser t v).bytes ∧ toVec t v = .ok (ser t v).bytes) := by
  rw [toWriterScript, runTrace_eq_any]
  exact C12_any_writer (AnyWriter.script sc) t v ⟨[], intr⟩

end Borsh
