/- `max_serialized_size` against its specification `specMax`: a bound is reported exactly when the
specification's maximum (times the multiplier) fits the address space, and then it is that. -/
import BorshModel.Lemmas.Nodes
namespace Borsh

theorem checked_eq_ok {v n : Nat} :
    (if v < usizeLimit then .ok v else .error .overflow : MaxRes) = .ok n ↔ n = v ∧ n < usizeLimit := by
  by_cases hv : v < usizeLimit
  · rw [if_pos hv]
    exact ⟨fun h => (by cases h; exact ⟨rfl, hv⟩), fun h => congrArg _ h.1.symm⟩
  · rw [if_neg hv]
    exact ⟨nofun, fun h => absurd (h.1 ▸ h.2) hv⟩

theorem cAdd_eq_ok {x y n : Nat} : cAdd x y = .ok n ↔ n = x + y ∧ n < usizeLimit := checked_eq_ok

theorem cMul_eq_ok {x y n : Nat} : cMul x y = .ok n ↔ n = x * y ∧ n < usizeLimit := checked_eq_ok

theorem sumWith_spec {f : Name → MaxRes} {g : Name → SpecSize} (h : ∀ e n, f e = .ok n → g e = .fin n) :
    ∀ (es : List Name) (acc s : Nat), sumWith f es acc = .ok s →
      ∃ t, specSum g es = .fin t ∧ s = acc + t
  | [], acc, s, hs => by cases hs; exact ⟨0, rfl, rfl⟩
  | e :: es, acc, s, hs => by
    obtain ⟨sz, h1, h2⟩ := Res.bind_eq_ok hs
    obtain ⟨a, h3, h4⟩ := Res.bind_eq_ok h2
    obtain ⟨t, ht, rfl⟩ := sumWith_spec h es a s h4
    obtain ⟨rfl, _⟩ := cAdd_eq_ok.mp h3
    exact ⟨sz + t, by simp only [specSum, h e sz h1, ht, SpecSize.bind], Nat.add_assoc _ _ _⟩

theorem maxWith_spec {f : Name → MaxRes} {g : Name → SpecSize} (h : ∀ e n, f e = .ok n → g e = .fin n) :
    ∀ (es : List Name) (acc s : Nat), maxWith f es acc = .ok s →
      ∃ t, specMaxOf g es = .fin t ∧ s = max acc t
  | [], acc, s, hs => by cases hs; exact ⟨0, rfl, (Nat.max_zero _).symm⟩
  | e :: es, acc, s, hs => by
    obtain ⟨sz, h1, h2⟩ := Res.bind_eq_ok hs
    obtain ⟨t, ht, rfl⟩ := maxWith_spec h es _ s h2
    exact ⟨max sz t, by simp only [specMaxOf, h e sz h1, ht, SpecSize.bind], Nat.max_assoc _ _ _⟩

theorem maxNode_ok {r : Nat → Name → MaxRes} {g : Name → SpecSize}
    (hr : ∀ k e n, r k e = .ok n → ∃ m, g e = .fin m ∧ n = k * m) {s : Nat} {df : Defn}
    (h : maxNode r df = .ok s) : specNode g df = .fin s := by
  have one : ∀ e k, r 1 e = .ok k → g e = .fin k := fun e k hk => by
    obtain ⟨m, hm, rfl⟩ := hr 1 e k hk; rw [hm, Nat.one_mul]
  cases df with
  | primitive size => cases h; rfl
  | sequence lw lo hi e =>
    obtain ⟨sz, h1, h2⟩ := Res.bind_eq_ok h
    obtain ⟨rfl, _⟩ := cAdd_eq_ok.mp h2
    simp only [specNode]
    split at h1
    · cases h1; rw [if_pos ‹_›, Nat.zero_add]
    · obtain ⟨m, hm, rfl⟩ := hr hi e sz h1
      rw [if_neg ‹_›, hm, Nat.add_comm]; rfl
  | «enum» tw vs =>
    obtain ⟨mx, h1, h2⟩ := Res.bind_eq_ok h
    obtain ⟨rfl, _⟩ := cAdd_eq_ok.mp h2
    -- `mx = max 0 t`, and `max 0 t` computes to `t`
    obtain ⟨t, ht, rfl⟩ := maxWith_spec one _ 0 mx h1
    rw [Nat.add_comm]
    exact congrArg (·.bind fun m => .fin (tw + m)) ht
  | tuple es | struct es =>
    obtain ⟨t, ht, rfl⟩ := sumWith_spec one _ 0 s h
    rw [Nat.zero_add]; exact ht

theorem maxSize_ok (c : Container) :
    ∀ (fuel count : Nat) (d : Name) (path : List Name) (n : Nat),
      maxSize c fuel count d path = .ok n →
        ∃ m, specMax c fuel d path = .fin m ∧ n = count * m ∧ n < usizeLimit := by
  intro fuel
  induction fuel with
  | zero => intro count d path n h; cases h
  | succ fuel ih =>
    intro count d path n h
    rw [maxSize_step] at h
    obtain ⟨df, hd, hg, h⟩ := guarded_eq h nofun nofun
    obtain ⟨s, h1, h2⟩ := Res.bind_eq_ok h
    obtain ⟨rfl, hlt⟩ := cMul_eq_ok.mp h2
    rw [specMax_step, guarded_of hd hg]
    exact ⟨s, maxNode_ok (fun k e n h => (ih k e _ n h).imp fun _ hm => ⟨hm.1, hm.2.1⟩) h1,
      rfl, hlt⟩

theorem maxSize_exact (c : Container) :
    ∀ (fuel count : Nat) (d : Name) (path : List Name) (n : Nat),
      maxSize c fuel count d path = .ok n →
        ∃ m, specMax c fuel d path = .fin m ∧ n = count * m :=
  fun fuel count d path n h => (maxSize_ok c fuel count d path n h).imp fun _ hm => ⟨hm.1, hm.2.1⟩

theorem sumWith_complete {f : Name → MaxRes} {g : Name → SpecSize}
    (h : ∀ e k, g e = .fin k → k < usizeLimit → f e = .ok k) :
    ∀ (es : List Name) (acc t : Nat), specSum g es = .fin t → acc + t < usizeLimit →
      sumWith f es acc = .ok (acc + t)
  | [], acc, t, ht, _ => by cases ht; rfl
  | e :: es, acc, t, ht, hlt => by
    obtain ⟨a, ha, h2⟩ := SpecSize.bind_eq_fin ht
    obtain ⟨b, hb, h3⟩ := SpecSize.bind_eq_fin h2
    cases h3
    rw [← Nat.add_assoc] at hlt ⊢
    have hacc : acc + a < usizeLimit := Nat.lt_of_le_of_lt (Nat.le_add_right _ b) hlt
    rw [sumWith, h e a ha (Nat.lt_of_le_of_lt (Nat.le_add_left a acc) hacc), Res.bind_ok,
      cAdd_eq_ok.mpr ⟨rfl, hacc⟩, Res.bind_ok, sumWith_complete h es (acc + a) b hb hlt]

theorem maxWith_complete {f : Name → MaxRes} {g : Name → SpecSize}
    (h : ∀ e k, g e = .fin k → k < usizeLimit → f e = .ok k) :
    ∀ (es : List Name) (acc t : Nat), specMaxOf g es = .fin t → t < usizeLimit →
      maxWith f es acc = .ok (max acc t)
  | [], acc, t, ht, _ => by cases ht; exact congrArg _ (Nat.max_zero _).symm
  | e :: es, acc, t, ht, hlt => by
    obtain ⟨a, ha, h2⟩ := SpecSize.bind_eq_fin ht
    obtain ⟨b, hb, h3⟩ := SpecSize.bind_eq_fin h2
    cases h3
    rw [maxWith, h e a ha (Nat.lt_of_le_of_lt (Nat.le_max_left a b) hlt), Res.bind_ok,
      maxWith_complete h es (max acc a) b hb (Nat.lt_of_le_of_lt (Nat.le_max_right a b) hlt),
      Nat.max_assoc]

theorem maxNode_complete {r : Nat → Name → MaxRes} {g : Name → SpecSize}
    (hr : ∀ k e m, g e = .fin m → 0 < k → k * m < usizeLimit → r k e = .ok (k * m))
    {m : Nat} {df : Defn} (h : specNode g df = .fin m) (hlt : m < usizeLimit) :
    maxNode r df = .ok m := by
  have one : ∀ e k, g e = .fin k → k < usizeLimit → r 1 e = .ok k := fun e k hk hkl => by
    rw [hr 1 e k hk Nat.one_pos (by rwa [Nat.one_mul]), Nat.one_mul]
  cases df with
  | primitive size => cases h; rfl
  | sequence lw lo hi e =>
    simp only [specNode] at h
    simp only [maxNode]
    split at h
    · cases h
      rw [if_pos ‹_›, Res.bind_ok]
      exact cAdd_eq_ok.mpr ⟨(Nat.zero_add _).symm, hlt⟩
    · obtain ⟨k, hk, h2⟩ := SpecSize.bind_eq_fin h
      cases h2
      rw [if_neg ‹_›, hr hi e k hk (Nat.pos_of_ne_zero ‹_›) (Nat.lt_of_le_of_lt (Nat.le_add_left _ _) hlt),
        Res.bind_ok]
      exact cAdd_eq_ok.mpr ⟨Nat.add_comm _ _, hlt⟩
  | «enum» tw vs =>
    obtain ⟨t, ht, h2⟩ := SpecSize.bind_eq_fin h
    cases h2
    rw [maxNode, maxWith_complete one _ 0 t ht (Nat.lt_of_le_of_lt (Nat.le_add_left _ _) hlt), Res.bind_ok,
      Nat.zero_max]
    exact cAdd_eq_ok.mpr ⟨Nat.add_comm _ _, hlt⟩
  | tuple es | struct es =>
    rw [maxNode, sumWith_complete one _ 0 m h (by rwa [Nat.zero_add]), Nat.zero_add]

theorem maxSize_complete (c : Container) :
    ∀ (fuel count : Nat) (d : Name) (path : List Name) (m : Nat),
      specMax c fuel d path = .fin m → 0 < count → count * m < usizeLimit →
        maxSize c fuel count d path = .ok (count * m) := by
  intro fuel
  induction fuel with
  | zero => intro count d path m h; cases h
  | succ fuel ih =>
    intro count d path m h hc hlt
    rw [specMax_step] at h
    obtain ⟨df, hd, hg, h⟩ := guarded_eq h nofun nofun
    have hm : m < usizeLimit := Nat.lt_of_le_of_lt (Nat.le_mul_of_pos_left m hc) hlt
    rw [maxSize_step, guarded_of hd hg, maxNode_complete (fun k e m => ih k e _ m) h hm,
      Res.bind_ok]
    exact cMul_eq_ok.mpr ⟨rfl, hlt⟩

end Borsh
