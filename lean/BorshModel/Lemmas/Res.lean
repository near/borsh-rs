/- `Res`, the three-way result of the schema analyses (ok / error / panic): what `bind` does, read
   backwards from a result, and that it passes a panic on and makes none. -/
import BorshModel.Schema
namespace Borsh

theorem Res.bind_ok {ε α β : Type} (a : α) (f : α → Res ε β) : (Res.ok a).bind f = f a := rfl

theorem Res.bind_assoc {ε α β γ : Type} (x : Res ε α) (f : α → Res ε β) (g : β → Res ε γ) :
    (x.bind f).bind g = x.bind fun a => (f a).bind g := by
  cases x <;> rfl

theorem Res.bind_eq_ok {ε α β : Type} {x : Res ε α} {f : α → Res ε β} {b : β}
    (h : x.bind f = .ok b) : ∃ a, x = .ok a ∧ f a = .ok b := by
  cases x with
  | ok a => exact ⟨a, rfl, h⟩
  | error e => cases h
  | panic p => cases h

theorem Res.bind_eq_error {ε α β : Type} {x : Res ε α} {f : α → Res ε β} {e : ε}
    (h : x.bind f = .error e) : x = .error e ∨ ∃ a, x = .ok a ∧ f a = .error e := by
  cases x with
  | ok a => exact .inr ⟨a, rfl, h⟩
  | error e' => exact .inl (congrArg _ (Res.error.inj h))
  | panic p => cases h

theorem Res.ok_or_error {ε α : Type} {x : Res ε α} (h : x.isPanic = false) :
    (∃ a, x = .ok a) ∨ ∃ e, x = .error e := by
  cases x with
  | ok a => exact .inl ⟨a, rfl⟩
  | error e => exact .inr ⟨e, rfl⟩
  | panic p => cases h

theorem Res.bind_noPanic {ε α β : Type} {x : Res ε α} {f : α → Res ε β}
    (hx : x.isPanic = false) (hf : ∀ a, (f a).isPanic = false) : (x.bind f).isPanic = false := by
  cases x with
  | ok a => exact hf a
  | error e => rfl
  | panic p => cases hx

theorem Res.ite_noPanic {ε α : Type} {p : Prop} [Decidable p] {x y : Res ε α}
    (hx : x.isPanic = false) (hy : y.isPanic = false) : (if p then x else y).isPanic = false := by
  by_cases hp : p
  · rw [if_pos hp]; exact hx
  · rw [if_neg hp]; exact hy

end Borsh
