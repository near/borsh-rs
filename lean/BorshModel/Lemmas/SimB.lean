/-
  Reader simulation *with a cut-off*: the left reader (think: a slice) never fails on its own
  account before some offset `o`; the right reader (think: a scripted reader with a hard failure
  at stream offset `o`) answers alike as long as a read ends at or before `o`, and answers with the
  hard failure `esc` as soon as a read would go past it.  Then, for every type of the universe:

  * if the left decode succeeds having advanced to a position `≤ o`, the right decode succeeds
    with the same value (the failure is never met);
  * if the left decode succeeds having advanced past `o`, the right decode fails with `esc`,
    unchanged;
  * if the left decode fails, the right decode fails with the same error or with `esc`.
-/
import BorshModel.De
import BorshModel.Lemmas.DeRel
namespace Borsh

section
variable {σ₁ σ₂ : Type} (R : σ₁ → σ₂ → Prop) (pos : σ₁ → Nat) (o : Nat) (esc : Err)

def RelB {α : Type} (x : Out (α × σ₁)) (y : Out (α × σ₂)) : Prop :=
  match x with
  | .ok a => if pos a.2 ≤ o then ∃ s₂, y = .ok (a.1, s₂) ∧ R a.2 s₂ else y = .err esc
  | .err e => y = .err e ∨ y = .err esc
  -- nothing is asked after a left panic: in every use the left side is the slice decoder, which
  -- never panics (`de_safe_all`)
  | .panic _ => True

def Mono {α : Type} (f : σ₁ → Out (α × σ₁)) : Prop :=
  ∀ s a, f s = .ok a → pos s ≤ pos a.2

def SimB {α : Type} (f : σ₁ → Out (α × σ₁)) (g : σ₂ → Out (α × σ₂)) : Prop :=
  Mono pos f ∧ ∀ s₁ s₂, R s₁ s₂ → pos s₁ ≤ o → RelB R pos o esc (f s₁) (g s₂)

structure RdSimB (rd₁ : Rd σ₁) (rd₂ : Rd σ₂) : Prop where
  exact : ∀ n, SimB R pos o esc (rd₁.readExact n) (rd₂.readExact n)
  bulk : ∀ n, SimB R pos o esc (rd₁.readBulk n) (rd₂.readBulk n)

variable {R pos o esc}

/-- past the cut-off the right side has failed with `esc`, whatever the left side went on to do -/
theorem RelB.past {α : Type} {x : Out (α × σ₁)} (h : ∀ a, x = .ok a → ¬ pos a.2 ≤ o) :
    RelB R pos o esc x (.err esc : Out (α × σ₂)) := by
  cases x with
  | ok a => exact (if_neg (h a rfl)).mpr rfl
  | err e => exact .inr rfl
  | panic p => trivial

theorem SimB.bind {α β : Type} {f : σ₁ → Out (α × σ₁)} {g : σ₂ → Out (α × σ₂)}
    {k₁ : α → σ₁ → Out (β × σ₁)} {k₂ : α → σ₂ → Out (β × σ₂)}
    (hf : SimB R pos o esc f g) (hk : ∀ a, SimB R pos o esc (k₁ a) (k₂ a)) :
    SimB R pos o esc (fun s => (f s).bindS k₁) (fun s => (g s).bindS k₂) := by
  refine ⟨?_, ?_⟩
  · intro s b hb
    obtain ⟨⟨a, s'⟩, h1, h2⟩ := Out.bind_eq_ok_iff.mp hb
    exact Nat.le_trans (hf.1 s _ h1) ((hk a).1 s' b h2)
  · intro s₁ s₂ hR hp
    have := hf.2 s₁ s₂ hR hp
    show RelB R pos o esc ((f s₁).bind fun r => k₁ r.1 r.2) ((g s₂).bind fun r => k₂ r.1 r.2)
    cases h1 : f s₁ <;> rw [h1] at this
    · rename_i a
      by_cases hle : pos a.2 ≤ o
      · obtain ⟨s₂', hy, hR'⟩ := (if_pos hle).mp this
        rw [hy]
        exact (hk a.1).2 a.2 s₂' hR' hle
      · rw [(if_neg hle).mp this]
        exact RelB.past fun b hb hb' => hle (Nat.le_trans ((hk a.1).1 a.2 b hb) hb')
    · rcases this with h | h <;> rw [h]
      · exact .inl rfl
      · exact .inr rfl
    · trivial

theorem SimB.mapErr {α : Type} {f : σ₁ → Out (α × σ₁)} {g : σ₂ → Out (α × σ₂)}
    (hf : SimB R pos o esc f g) (h : Err → Err) (hesc : h esc = esc) :
    SimB R pos o esc (fun s => (f s).mapErr h) (fun s => (g s).mapErr h) := by
  refine ⟨?_, ?_⟩
  · intro s b hb
    exact hf.1 s b (Out.mapErr_eq_ok_iff.mp hb)
  · intro s₁ s₂ hR hp
    have := hf.2 s₁ s₂ hR hp
    show RelB R pos o esc ((f s₁).mapErr h) ((g s₂).mapErr h)
    cases h1 : f s₁ <;> rw [h1] at this
    · rename_i a
      by_cases hle : pos a.2 ≤ o
      · obtain ⟨s₂', hy, hR'⟩ := (if_pos hle).mp this
        rw [hy]
        exact (if_pos hle).mpr ⟨s₂', rfl, hR'⟩
      · rw [(if_neg hle).mp this]
        exact (if_neg hle).mpr (congrArg Out.err hesc)
    · rcases this with h' | h' <;> rw [h']
      · exact .inl rfl
      · exact .inr (congrArg Out.err hesc)
    · trivial

theorem SimB.pure {α : Type} (a : α) :
    SimB R pos o esc (fun s : σ₁ => Out.ok (a, s)) (fun s : σ₂ => Out.ok (a, s)) := by
  refine ⟨fun s b hb => (by cases hb; exact Nat.le_refl _), ?_⟩
  intro s₁ s₂ hR hp
  exact (if_pos hp).mpr ⟨s₂, rfl, hR⟩

theorem SimB.err {α : Type} (e : Err) :
    SimB R pos o esc (fun _ : σ₁ => (Out.err e : Out (α × σ₁))) (fun _ : σ₂ => (Out.err e : Out (α × σ₂))) :=
  ⟨fun _ _ hb => (nomatch hb), fun _ _ _ _ => .inl rfl⟩

-- `hesc`: `readMapped` maps an `UnexpectedEof` error to the unexpected-length one; `esc` must pass unchanged
variable {rd₁ : Rd σ₁} {rd₂ : Rd σ₂} (h : RdSimB R pos o esc rd₁ rd₂) (hesc : mapEof esc = esc)
include h hesc

theorem readMapped_simB (n : Nat) : SimB R pos o esc (readMapped rd₁ n) (readMapped rd₂ n) :=
  SimB.mapErr (h.exact n) _ hesc

theorem RdSimB.deRel : DeRel (SimB R pos o esc) rd₁ rd₂ where
  pure := SimB.pure
  err e _ := SimB.err e
  bind := SimB.bind
  mapped := readMapped_simB h hesc
  u8 := readU8_rel SimB.pure (fun _ => ⟨fun _ _ hb => (nomatch hb), fun _ _ _ _ => trivial⟩)
    (SimB.bind (readMapped_simB h hesc 1))
  bulk := h.bulk

end

section
variable {σ₁ σ₂ : Type} {R : σ₁ → σ₂ → Prop} {pos : σ₁ → Nat} {o : Nat} {esc : Err} {rd₁ : Rd σ₁} {rd₂ : Rd σ₂}

theorem de_simB (h : RdSimB R pos o esc rd₁ rd₂) (hesc : mapEof esc = esc) :
    ∀ t : Ty, ∀ st, SimB R pos o esc (de rd₁ st t) (de rd₂ st t) :=
  fun t st => de_rel_st (h.deRel hesc) st t

end

end Borsh
