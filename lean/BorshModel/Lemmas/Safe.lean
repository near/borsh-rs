/-
  Totality and error discipline of the slice decoder: for every type and every byte
  string it returns `ok` or an `InvalidData` error — it never panics and no other
  error kind escapes.
-/
import BorshModel.Lemmas.SliceRd
import BorshModel.Lemmas.DeRel
namespace Borsh

def Out.safe {α : Type} : Out α → Prop
  | .ok _ => True
  | .err e => e.kind = .invalidData
  | .panic _ => False

theorem Out.safe.not_panic {α : Type} {x : Out α} (h : x.safe) : x.isPanic = false := by
  cases x with
  | panic p => exact h.elim
  | _ => rfl

theorem Out.safe.kind {α : Type} {x : Out α} (h : x.safe) {e : Err} (he : x = .err e) :
    e.kind = .invalidData := by subst he; exact h

theorem Out.safe.bind {α β : Type} {x : Out α} {k : α → Out β} (hx : x.safe) (hk : ∀ a, (k a).safe) :
    (x.bind k).safe := by
  cases x with
  | ok a => exact hk a
  | _ => exact hx

def Safe {α : Type} (f : Bytes → Out (α × Bytes)) : Prop := ∀ p, (f p).safe

theorem Safe.pure {α : Type} (a : α) : Safe (fun p => Out.ok (a, p)) := fun _ => trivial

theorem Safe.bind {α β : Type} {f : Bytes → Out (α × Bytes)} {g : α → Bytes → Out (β × Bytes)}
    (hf : Safe f) (hg : ∀ a, Safe (g a)) : Safe (fun p => (f p).bindS g) :=
  fun p => (hf p).bind fun r => hg r.1 r.2

theorem readBulk_safe (n : Nat) : Safe (Rd.slice.readBulk n) := by
  intro p
  rw [slice_readBulk]
  split
  · exact trivial
  · exact rfl

theorem slice_safeRel : DePred Safe Rd.slice where
  pure := Safe.pure
  err _ he _ := he
  bind := Safe.bind
  mapped n := readMapped_eq_readBulk n ▸ readBulk_safe n
  u8 p := by
    rw [readU8_slice]
    cases p
    · exact rfl
    · exact trivial
  bulk := readBulk_safe

theorem de_safe_all : ∀ t : Ty, ∀ st, Safe (de Rd.slice st t) :=
  fun t st => de_rel_st slice_safeRel st t

theorem fromSlice_safe (st : Bool) (t : Ty) (bs : Bytes) : (fromSlice st t bs).safe :=
  (de_safe_all t st bs).bind fun r => by
    split
    · exact trivial
    · exact rfl

end Borsh
