/-
  How the two key-order modes can differ at all: for every type and every reader state, the strict
  decoder either gives exactly what the lax decoder gives, or it fails with the key-order error.
  So the *only* inputs the lax mode accepts in addition are those on which some set or map entry
  list is not strictly ascending (unsorted or repeated keys); in particular whatever strict mode
  accepts, lax mode accepts with the same result, and on types without a hash/ordered set or map
  the two decoders are equal.
-/
import BorshModel.Canon
import BorshModel.Lemmas.DeRel
namespace Borsh

section
variable {σ : Type} (rd : Rd σ)

def DevO {α : Type} (x x' : Out α) : Prop := x = x' ∨ x = .err eKeyOrder

def Dev {α : Type} (g g' : σ → Out (α × σ)) : Prop := ∀ s, DevO (g s) (g' s)

theorem DevO.refl {α : Type} (x : Out α) : DevO x x := Or.inl rfl

theorem DevO.bind {α β : Type} {x x' : Out α} {k k' : α → Out β}
    (h : DevO x x') (hk : ∀ a, DevO (k a) (k' a)) : DevO (x.bind k) (x'.bind k') := by
  rcases h with h | h
  · subst h
    cases x with
    | ok a => exact hk a
    | err e => exact Or.inl rfl
    | panic p => exact Or.inl rfl
  · rw [h]; exact Or.inr rfl

theorem Dev.rfl {α : Type} {g : σ → Out (α × σ)} : Dev g g := fun s => DevO.refl (g s)

theorem strict_dev_all : ∀ t : Ty, Dev (de rd true t) (de rd false t) :=
  de_rel (Q := Dev) (rd₁ := rd) (rd₂ := rd)
    { pure := fun _ => Dev.rfl, err := fun _ _ => Dev.rfl, mapped := fun _ => Dev.rfl, u8 := Dev.rfl,
      bulk := fun _ => Dev.rfl, bind := fun hf hk s => DevO.bind (hf s) fun a => hk a.1 a.2 }
    true false fun c _ _ => match c with
      | false => Or.inl rfl
      | true => Or.inr rfl

def Sub {α : Type} (g g' : σ → Out (α × σ)) : Prop := ∀ s r, g s = .ok r → g' s = .ok r

theorem strict_sub_lax_all : ∀ t : Ty, Sub (de rd true t) (de rd false t) := by
  intro t s r h
  rcases strict_dev_all rd t s with e | e
  · rw [← e, h]
  · rw [e] at h; cases h

theorem mode_irrelevant_all : ∀ t : Ty, noOrderCheck t = true → de rd false t = de rd true t := by
  apply Ty.induct (P := fun t => noOrderCheck t = true → de rd false t = de rd true t)
    (PF := fun fs => noOrderCheckFields fs = true → deFields rd false fs = deFields rd true fs)
    (PV := fun vs => noOrderCheckVariants vs = true →
      ∀ tk, deVariants rd false tk vs = deVariants rd true tk vs)
  -- where no mode is looked at and nothing is decoded inside, the two clauses are one
  case h_int | h_nonzero | h_float | h_bool | h_str | h_asciiChar | h_raw | h_custom | h_fnil | h_vnil =>
    intros; rfl
  case h_set => intro k t _ h; cases h
  case h_map =>
    intro k a b iha ihb h
    simp only [noOrderCheck, Bool.and_eq_true, beq_iff_eq] at h
    obtain ⟨⟨rfl, ha⟩, hb⟩ := h
    funext s
    simp only [de, iha ha, ihb hb]
  -- elsewhere the mode is only handed on
  case h_seq | h_array | h_wrap => intro _ t ih h; funext s; simp only [de, ih h]
  case h_prod | h_sum => intro _ l ih h; funext s; simp only [de, ih h]
  case h_fcons =>
    intro n sk t fs iht ihf h
    funext s
    simp only [deFields, iht (Bool.and_eq_true_iff.mp h).1, ihf (Bool.and_eq_true_iff.mp h).2]
  case h_vcons =>
    intro n g fs vs ihf ihv h tk
    funext tag idx s
    simp only [deVariants, ihf (Bool.and_eq_true_iff.mp h).1, ihv (Bool.and_eq_true_iff.mp h).2 tk]

end

end Borsh
