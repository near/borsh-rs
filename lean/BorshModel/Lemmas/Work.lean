/-
  C07, work: a successful slice decode consumes a prefix of its input at least `minWire t` bytes
  long, and the *size of the decoded value* (number of nodes, bytes of strings included — a proxy
  for the elements decoded and the memory retained) is at most a constant plus a constant multiple
  of the number of input bytes consumed, with constants that depend on the type only — for every
  type all of whose collection elements occupy at least one byte on the wire (`occ`), every byte
  string and both key-order modes.  A length prefix alone buys nothing.  The bounds compose by the
  `Yields.*` rules; the induction over the universe is `de_reads`.
-/
import BorshModel.Lemmas.Reads
namespace Borsh

mutual
/-- no encoding of the type is shorter (of a sum only the tag is counted) -/
def minWire : Ty → Nat
  | .int k | .nonzero k => k.width
  | .float k => k.width
  | .bool | .asciiChar => 1
  | .str _ => 4
  | .raw k => k.width
  | .seq _ _ | .set _ _ | .map _ _ _ => 4
  | .array n t => n * minWire t
  | .prod _ fs => minWireFields fs
  | .sum _ _ => 1
  | .wrap _ t => minWire t
  | .custom _ => 4
def minWireFields : List (Option Name × Bool × Ty) → Nat
  | [] => 0
  | (_, skip, t) :: fs => (if skip then 0 else minWire t) + minWireFields fs
end

/-- `f` consumes a prefix of its input that is at least `w a` bytes long: by unfolding, the
`Reads f fun a c => w a ≤ c.length` of `Lemmas/Reads.lean` -/
def Cons {α : Type} (f : Bytes → Out (α × Bytes)) (w : α → Nat) : Prop :=
  ∀ bs a rest, f bs = .ok (a, rest) → ∃ c, bs = c ++ rest ∧ w a ≤ c.length

mutual
def Val.nodes : Val → Nat
  | .int _ => 1
  | .bool _ => 1
  | .blob bs => 1 + bs.length
  | .list vs => 1 + nodesL vs
  | .deque a b => 1 + nodesL a + nodesL b
  | .variant _ fs => 1 + nodesL fs
def nodesL : List Val → Nat
  | [] => 0
  | v :: vs => v.nodes + nodesL vs
end

mutual
/-- every collection element occupies at least one byte on the wire (the property's hypothesis) -/
def occ : Ty → Bool
  | .seq _ t => decide (1 ≤ minWire t) && occ t
  | .set _ t => decide (1 ≤ minWire t) && occ t
  | .map _ a b => decide (1 ≤ minWire a + minWire b) && occ a && occ b
  | .array _ t => occ t
  | .prod _ fs => occF fs
  | .sum _ vs => occV vs
  | .wrap _ t => occ t
  | _ => true
def occF : List (Option Name × Bool × Ty) → Bool
  | [] => true
  | (_, skip, t) :: fs => (skip || occ t) && occF fs
def occV : List (Name × Nat × List (Option Name × Bool × Ty)) → Bool
  | [] => true
  | (_, _, fs) :: vs => occF fs && occV vs
end

mutual
/-- the constant part of the bound -/
def costA : Ty → Nat
  | .array n t => 1 + n * costA t
  | .prod _ fs => 1 + costAF fs
  | .sum _ vs => 1 + costAV vs
  | .wrap _ t => costA t
  | _ => 1
def costAF : List (Option Name × Bool × Ty) → Nat
  | [] => 0
  | (_, skip, t) :: fs => (if skip then (defaultOf t).nodes else costA t) + costAF fs
def costAV : List (Name × Nat × List (Option Name × Bool × Ty)) → Nat
  | [] => 0
  | (_, _, fs) :: vs => costAF fs + costAV vs
end

mutual
/-- the factor per consumed input byte -/
def costB : Ty → Nat
  | .str _ => 1
  | .raw _ => 1
  | .seq _ t => costA t + costB t
  | .set _ t => costA t + costB t
  | .map _ a b => 1 + costA a + costA b + costB a + costB b
  | .array _ t => costB t
  | .prod _ fs => costBF fs
  | .sum _ vs => costBV vs
  | .wrap _ t => costB t
  | _ => 0
def costBF : List (Option Name × Bool × Ty) → Nat
  | [] => 0
  | (_, skip, t) :: fs => (if skip then 0 else costB t) + costBF fs
def costBV : List (Name × Nat × List (Option Name × Bool × Ty)) → Nat
  | [] => 0
  | (_, _, fs) :: vs => costBF fs + costBV vs
end

theorem costA_pos : ∀ t : Ty, 1 ≤ costA t
  | .wrap _ t => costA_pos t
  | .array .. | .prod .. | .sum .. => Nat.le_add_right 1 _
  | .int _ | .nonzero _ | .float _ | .bool | .str _ | .asciiChar | .raw _ | .seq _ _ | .set _ _
  | .map _ _ _ | .custom _ => Nat.le_refl 1

theorem affine_le_mul (A B c : Nat) (h : 1 ≤ c) : A + B * c ≤ (A + B) * c :=
  Nat.add_mul .. ▸ Nat.add_le_add_right (Nat.le_mul_of_pos_right A h) _

section
variable {k k' A A' B B' n n' : Nat}

theorem affine_mono (h : k ≤ A + B * n) (hA : A ≤ A') (hB : B ≤ B') : k ≤ A' + B' * n :=
  Nat.le_trans h (Nat.add_le_add hA (Nat.mul_le_mul_right n hB))

theorem affine_sum (h : k ≤ A + B * n) (h' : k' ≤ A' + B * n') : k + k' ≤ (A + A') + B * (n + n') := by
  rw [Nat.mul_add, Nat.add_add_add_comm]; exact Nat.add_le_add h h'

theorem affine_add (h : k ≤ A + B * n) (h' : k' ≤ A' + B' * n') :
    k + k' ≤ (A + A') + (B + B') * (n + n') :=
  affine_sum (affine_mono h (Nat.le_refl _) (Nat.le_add_right ..))
    (affine_mono h' (Nat.le_refl _) (Nat.le_add_left ..))

end

theorem nodesL_append : ∀ a b : List Val, nodesL (a ++ b) = nodesL a + nodesL b
  | [], _ => (Nat.zero_add _).symm
  | x :: a, b => (congrArg (x.nodes + ·) (nodesL_append a b)).trans (Nat.add_assoc ..).symm

theorem nodesL_applyInit : ∀ l : List Val, nodesL (applyInit l) = nodesL l
  | [] => rfl
  | [v] => by cases v <;> rfl
  | v :: w :: vs => by
    simp only [applyInit, nodesL]
    exact congrArg (v.nodes + ·) (nodesL_applyInit (w :: vs))

theorem nodes_initVariant (b : Bool) (v : Val) : (initVariant b v).nodes = v.nodes := by
  cases v with
  | variant i fs =>
    cases b
    · rfl
    · exact congrArg (1 + ·) (nodesL_applyInit fs)
  | _ => rfl

/-! Inserting into a collection keeps the new element or not, and keeps, drops or replaces an old one. -/

theorem nodesL_cons_le {x y : Val} {l ys : List Val} (h : nodesL l ≤ x.nodes + nodesL ys) :
    nodesL (y :: l) ≤ x.nodes + nodesL (y :: ys) :=
  Nat.add_left_comm .. ▸ Nat.add_le_add_left h _

theorem nodesL_insertSet (x : Val) : ∀ acc : List Val, nodesL (insertSet x acc) ≤ x.nodes + nodesL acc
  | [] => Nat.le_refl _
  | y :: ys => by
    rw [insertSet]
    cases Val.cmp x y
    · exact Nat.le_refl _
    · exact Nat.le_add_left ..
    · exact nodesL_cons_le (nodesL_insertSet x ys)

theorem nodesL_insertMap (e : Val) : ∀ acc : List Val, nodesL (insertMap e acc) ≤ e.nodes + nodesL acc
  | [] => Nat.le_refl _
  | y :: ys => by
    rw [insertMap]
    cases Val.cmp (entryKey e) (entryKey y)
    · exact Nat.le_refl _
    · exact Nat.add_le_add_left (Nat.le_add_left ..) _
    · exact nodesL_cons_le (nodesL_insertMap e ys)

theorem nodesL_insertIndexSet (x : Val) : ∀ acc : List Val, nodesL (insertIndexSet x acc) ≤ x.nodes + nodesL acc
  | [] => Nat.le_refl _
  | y :: ys => by
    rw [insertIndexSet]
    cases Val.cmp x y == .eq
    · exact nodesL_cons_le (nodesL_insertIndexSet x ys)
    · exact Nat.le_add_left ..

theorem nodesL_insertIndexMap (e : Val) : ∀ acc : List Val, nodesL (insertIndexMap e acc) ≤ e.nodes + nodesL acc
  | [] => Nat.le_refl _
  | y :: ys => by
    rw [insertIndexMap]
    cases Val.cmp (entryKey e) (entryKey y) == .eq
    · exact nodesL_cons_le (nodesL_insertIndexMap e ys)
    · exact Nat.add_le_add_left (Nat.le_add_left ..) _

theorem nodesL_foldl (ins : Val → List Val → List Val)
    (h : ∀ x acc, nodesL (ins x acc) ≤ x.nodes + nodesL acc) :
    ∀ (l acc : List Val), nodesL (l.foldl (fun acc x => ins x acc) acc) ≤ nodesL l + nodesL acc
  | [], acc => Nat.le_of_eq (Nat.zero_add _).symm
  | x :: l, acc => by
    show _ ≤ x.nodes + nodesL l + nodesL acc
    rw [Nat.add_assoc, Nat.add_left_comm]
    exact Nat.le_trans (nodesL_foldl ins h l (ins x acc)) (Nat.add_le_add_left (h x acc) _)

theorem nodesL_collectSet (l : List Val) : nodesL (collectSet l) ≤ nodesL l :=
  nodesL_foldl insertSet nodesL_insertSet l []
theorem nodesL_collectMap (l : List Val) : nodesL (collectMap l) ≤ nodesL l :=
  nodesL_foldl insertMap nodesL_insertMap l []
theorem nodesL_collectIndexSet (l : List Val) : nodesL (collectIndexSet l) ≤ nodesL l :=
  nodesL_foldl insertIndexSet nodesL_insertIndexSet l []
theorem nodesL_collectIndexMap (l : List Val) : nodesL (collectIndexMap l) ≤ nodesL l :=
  nodesL_foldl insertIndexMap nodesL_insertIndexMap l []

/-- what a decode of `t` that takes `n` bytes yields: `n` is at least `minWire t`, and (if every
collection element occupies a byte) the value has at most `costA t + costB t · n` nodes -/
def Yields (t : Ty) (v : Val) (n : Nat) : Prop :=
  minWire t ≤ n ∧ (occ t = true → v.nodes ≤ costA t + costB t * n)
def YieldsF (fs : List Field) (vs : List Val) (n : Nat) : Prop :=
  minWireFields fs ≤ n ∧ (occF fs = true → nodesL vs ≤ costAF fs + costBF fs * n)
def YieldsV (vs : List Variant) (v : Val) (n : Nat) : Prop :=
  occV vs = true → v.nodes ≤ 1 + costAV vs + costBV vs * n

section
variable {t a b : Ty} {fs : List Field} {vs : List Variant} {v x y : Val} {l : List Val} {n m : Nat}

/-- a scalar: as many bytes as the type is wide, one node -/
theorem Yields.leaf (hw : minWire t = n) (hA : costA t = 1) (hv : v.nodes = 1) : Yields t v n :=
  ⟨Nat.le_of_eq hw, fun _ => by rw [hA, hv]; exact Nat.le_add_right ..⟩

/-- a byte string: one node per byte -/
theorem Yields.blob {bs : Bytes} (hA : costA t = 1) (hB : costB t = 1) (hw : minWire t ≤ n)
    (hb : bs.length ≤ n) : Yields t (.blob bs) n :=
  ⟨hw, fun _ => by rw [hA, hB, Val.nodes, Nat.one_mul]; exact Nat.add_le_add_left hb 1⟩

/-- a collection element: one byte at least, so the constant part can be charged to it -/
theorem Yields.elem (h : Yields t v n) (o : (decide (1 ≤ minWire t) && occ t) = true) :
    v.nodes ≤ (costA t + costB t) * n :=
  have ⟨hm, ho⟩ := Bool.and_eq_true_iff.mp o
  Nat.le_trans (h.2 ho) (affine_le_mul _ _ _ (Nat.le_trans (of_decide_eq_true hm) h.1))

/-- a map entry `(K, V)`, as an element of the entry list -/
theorem Yields.entry {k : MapK} (hx : Yields a x n) (hy : Yields b y m)
    (o : occ (.map k a b) = true) : (Val.list [x, y]).nodes ≤ costB (.map k a b) * (n + m) := by
  have ⟨o, ob⟩ := Bool.and_eq_true_iff.mp o
  have ⟨hm, oa⟩ := Bool.and_eq_true_iff.mp o
  have h1 := Nat.add_le_add_left (affine_add (hx.2 oa) (hy.2 ob)) 1
  have h2 := affine_le_mul (1 + (costA a + costA b)) (costB a + costB b) (n + m)
    (Nat.le_trans (of_decide_eq_true hm) (Nat.add_le_add hx.1 hy.1))
  show 1 + (x.nodes + y.nodes) ≤ (1 + costA a + costA b + costB a + costB b) * (n + m)
  simp only [Nat.add_assoc] at h1 h2 ⊢
  exact Nat.le_trans h1 h2

/-- a collection: four bytes of count, then elements of at most `costB t` nodes per byte; what is
built of them has no more nodes than they -/
theorem Yields.coll (hw : minWire t = 4) (hA : costA t = 1)
    (h : 4 ≤ n ∧ (occ t = true → nodesL l ≤ costB t * n)) (hv : v.nodes ≤ 1 + nodesL l) :
    Yields t v n :=
  ⟨hw ▸ h.1, fun o => hA ▸ Nat.le_trans hv (Nat.add_le_add_left (h.2 o) 1)⟩

theorem Yields.array_nil : Yields (.array 0 t) (.list []) 0 :=
  ⟨Nat.le_of_eq (Nat.zero_mul _), fun _ => Nat.le_add_right ..⟩

theorem Yields.array_cons {k : Nat} (h : Yields t v n) (h' : Yields (.array k t) (.list l) m) :
    Yields (.array (k + 1) t) (.list (v :: l)) (n + m) := by
  refine ⟨?_, fun o => ?_⟩
  · show (k + 1) * minWire t ≤ n + m
    rw [Nat.succ_mul, Nat.add_comm]
    exact Nat.add_le_add h.1 h'.1
  · have h2 : 1 + nodesL l ≤ 1 + k * costA t + costB t * m := h'.2 o
    show 1 + (v.nodes + nodesL l) ≤ 1 + (k + 1) * costA t + costB t * (n + m)
    rw [Nat.add_left_comm, Nat.succ_mul, Nat.add_comm (k * _), Nat.add_left_comm 1]
    exact affine_sum (h.2 o) h2

/-- a list of fields under one node -/
theorem YieldsF.node (h : YieldsF fs l n) (o : occF fs = true) :
    1 + nodesL l ≤ 1 + costAF fs + costBF fs * n :=
  Nat.add_assoc .. ▸ Nat.add_le_add_left (h.2 o) 1

theorem Yields.prod {k : ProdK} (h : YieldsF fs l n) :
    Yields (.prod k fs) (.list (if k.init then applyInit l else l)) n := by
  refine ⟨h.1, fun o => ?_⟩
  have : nodesL (if k.init then applyInit l else l) = nodesL l := by
    cases k.init
    · rfl
    · exact nodesL_applyInit l
  show 1 + nodesL _ ≤ _
  rw [this]
  exact h.node o

/-- one byte of tag, then the variant -/
theorem Yields.sum {k : SumK} (h : YieldsV vs v n) :
    Yields (.sum k vs) (initVariant k.init v) (n + 1) := by
  refine ⟨Nat.le_add_left .., fun o => ?_⟩
  rw [nodes_initVariant]
  exact Nat.le_trans (h o) (Nat.add_le_add_left (Nat.mul_le_mul_left _ (Nat.le_add_right ..)) _)

theorem YieldsF.cons {nm : Option Name} (hv : Yields t v n) (hl : YieldsF fs l m) :
    YieldsF ((nm, false, t) :: fs) (v :: l) (n + m) :=
  ⟨Nat.add_le_add hv.1 hl.1, fun o =>
    affine_add (hv.2 (Bool.and_eq_true_iff.mp o).1) (hl.2 (Bool.and_eq_true_iff.mp o).2)⟩

theorem YieldsF.skip {nm : Option Name} (hl : YieldsF fs l n) :
    YieldsF ((nm, true, t) :: fs) (defaultOf t :: l) n := by
  refine ⟨Nat.le_trans (Nat.le_of_eq (Nat.zero_add _)) hl.1, fun o => ?_⟩
  show (defaultOf t).nodes + nodesL l ≤ ((defaultOf t).nodes + costAF fs) + (0 + costBF fs) * n
  rw [Nat.zero_add, Nat.add_assoc]
  exact Nat.add_le_add_left (hl.2 o) _

theorem YieldsV.hit {nm : Name} {g i : Nat} (hl : YieldsF fs l n) :
    YieldsV ((nm, g, fs) :: vs) (.variant i l) n := fun o =>
  affine_mono (hl.node (Bool.and_eq_true_iff.mp o).1) (Nat.add_le_add_left (Nat.le_add_right ..) 1)
    (Nat.le_add_right ..)

theorem YieldsV.miss {nm : Name} {g : Nat} (h : YieldsV vs v n) : YieldsV ((nm, g, fs) :: vs) v n :=
  fun o => affine_mono (h (Bool.and_eq_true_iff.mp o).2)
    (Nat.add_le_add_left (Nat.le_add_left ..) 1) (Nat.le_add_left ..)

end

/-- `Vec<T>` whose elements have at most `K` nodes per byte (under a side condition `C`) -/
theorem Reads.vecNodes {f : Bytes → Out (Val × Bytes)} {K : Nat} {C : Prop}
    (hf : Reads f fun v c => C → v.nodes ≤ K * c.length) :
    Reads (deVec Rd.slice false f) fun vs c => 4 ≤ c.length ∧ (C → nodesL vs ≤ K * c.length) :=
  (Reads.vec <| Reads.repeat hf (Ψ := fun vs d => C → nodesL vs ≤ K * d.length) (fun _ => Nat.zero_le _)
    fun v c vs d h h' hc => by
      rw [List.length_append, Nat.mul_add]; exact Nat.add_le_add (h hc) (h' hc)).mono
    fun vs c ⟨d, _, e, h⟩ => by
      rw [e, List.length_append, Nat.mul_add]
      exact ⟨Nat.le_trans (Nat.le_of_eq (leBytes_length 4 _).symm) (Nat.le_add_right ..),
        fun hc => Nat.le_trans (h hc) (Nat.le_add_left ..)⟩

theorem de_reads : ∀ t : Ty, ∀ st, Reads (de Rd.slice st t) fun v c => Yields t v c.length := by
  apply Ty.induct (P := fun t => ∀ st p, Took p (de Rd.slice st t p) fun v c => Yields t v c.length)
    (PF := fun fs => ∀ st p, Took p (deFields Rd.slice st fs p) fun vs c => YieldsF fs vs c.length)
    (PV := fun vs => ∀ st tk tag idx p,
      Took p (deVariants Rd.slice st tk vs tag idx p) fun v c => YieldsV vs v c.length)
  case h_int =>
    intro k st p
    simp only [de]
    exact (readMapped_reads _ p).map fun a c q h => ⟨rfl, .leaf h.2.symm rfl rfl⟩
  case h_nonzero | h_float =>
    intro k st p
    simp only [de]
    exact (readMapped_reads _ p).guard fun a c q h =>
      Took.ite (fun _ => Took.err) fun _ => Took.pure ⟨rfl, .leaf h.2.symm rfl rfl⟩
  case h_bool =>
    intro st p
    simp only [de]
    exact (readU8_reads p).guard fun a c q hc =>
      Took.ite (fun _ => Took.pure ⟨rfl, .leaf (hc ▸ rfl) rfl rfl⟩) fun _ =>
        Took.ite (fun _ => Took.pure ⟨rfl, .leaf (hc ▸ rfl) rfl rfl⟩) fun _ => Took.err
  case h_asciiChar =>
    intro st p
    simp only [de]
    exact (readU8_reads p).guard fun a c q hc =>
      Took.ite (fun _ => Took.pure ⟨rfl, .leaf (hc ▸ rfl) rfl rfl⟩) fun _ => Took.err
  case h_custom =>
    intro t _ st p
    simp only [de]
    exact (readMapped_reads _ p).map fun a c q h => ⟨rfl, .leaf h.2.symm rfl rfl⟩
  case h_raw =>
    intro k st p
    simp only [de]
    exact (readMapped_reads _ p).map fun a c q h =>
      ⟨rfl, .blob rfl rfl (Nat.le_of_eq h.2.symm) (h.1 ▸ Nat.le_refl _)⟩
  case h_str =>
    intro k st p
    simp only [de]
    refine (deByteVec_reads p).guard fun a c q ⟨_, hc⟩ => ?_
    have e : c.length = 4 + a.length := by
      rw [hc, List.length_append]; exact congrArg (· + _) (leBytes_length 4 _)
    have : Yields (.str k) (.blob a) c.length :=
      .blob rfl rfl (e ▸ Nat.le_add_right ..) (e ▸ Nat.le_add_left ..)
    exact Took.ite (fun _ => Took.ite (fun _ => Took.pure ⟨rfl, this⟩) fun _ => Took.err)
      fun _ => Took.ite (fun _ => Took.pure ⟨rfl, this⟩) fun _ => Took.err
  case h_seq =>
    intro k t ih st p
    simp only [de]
    split
    · -- `BytesMut`: the elements are `u8`, whatever `t` says
      simp only [← Out.map_bind, ← deVec_false]
      refine (Reads.vecNodes (fun q => ?_) p).map fun l c q h => ⟨rfl, .coll rfl rfl h (Nat.le_refl _)⟩
      exact (readU8_reads q).map fun b c r hc => ⟨rfl, fun _ => hc ▸
        Nat.le_trans (costA_pos t) (Nat.le_trans (Nat.le_add_right ..) (Nat.le_of_eq (Nat.mul_one _).symm))⟩
    · refine Took.ite (fun _ => Took.err) fun _ => ?_
      rw [deVec_slice]
      refine (Reads.vecNodes (Reads.mono (ih st) fun _ _ => Yields.elem) p).map fun l c q h => ?_
      split
      · exact ⟨rfl, .coll rfl rfl h (Nat.le_refl _)⟩
      · exact ⟨rfl, .coll rfl rfl h (Nat.add_le_add_left (nodesL_collectIndexSet l) 1)⟩
      · exact ⟨rfl, .coll rfl rfl h (Nat.le_refl _)⟩
  case h_set =>
    intro k t ih st p
    simp only [de, deVec_slice]
    exact Took.ite (fun _ => Took.err) fun _ =>
      (Reads.vecNodes (Reads.mono (ih st) fun _ _ => Yields.elem) p).guard fun l c q h =>
        Took.ite (fun _ => Took.err) fun _ =>
          Took.pure ⟨rfl, .coll rfl rfl h (Nat.add_le_add_left (nodesL_collectSet l) 1)⟩
  case h_map =>
    intro k a b iha ihb st p
    have hent : Reads (deEntry (de Rd.slice st a) (de Rd.slice st b)) fun v c =>
        occ (.map k a b) = true → v.nodes ≤ costB (.map k a b) * c.length :=
      fun q => (iha st q).bind fun x c r hx => (ihb st r).map fun y d s hy =>
        ⟨rfl, fun o => List.length_append ▸ hx.entry hy o⟩
    simp only [de]
    refine Took.ite (fun _ => Took.err) fun _ => (Reads.vecNodes hent p).guard fun l c q h => ?_
    split
    · exact Took.pure ⟨rfl, .coll rfl rfl h (Nat.add_le_add_left (nodesL_collectIndexMap l) 1)⟩
    · exact Took.ite (fun _ => Took.err) fun _ =>
        Took.pure ⟨rfl, .coll rfl rfl h (Nat.add_le_add_left (nodesL_collectMap l) 1)⟩
  case h_array =>
    intro n t ih st p
    rw [de_array_slice]
    exact (Reads.repeat (ih st) (Ψ := fun vs c => Yields (.array vs.length t) (.list vs) c.length)
      .array_nil (fun v c vs d h h' => List.length_append ▸ h.array_cons h') n p).map
        fun l c q ⟨hl, h⟩ => ⟨rfl, hl ▸ h⟩
  case h_prod =>
    intro k fs ih st p
    simp only [de]
    exact (ih st p).map fun l c q hl => ⟨rfl, .prod hl⟩
  case h_sum =>
    intro k vs ih st p
    simp only [de]
    exact (readU8_reads p).bind fun tag c q hc => (ih st _ _ _ q).map fun x d r hx =>
      ⟨rfl, hc ▸ Yields.sum hx⟩
  case h_wrap =>
    intro k t ih st p
    simp only [de]
    exact ih st p
  case h_fnil =>
    intro st p
    exact Took.pure ⟨Nat.le_refl _, fun _ => Nat.le_refl _⟩
  case h_fcons =>
    intro n sk t fs iht ihf st p
    simp only [deFields]
    cases sk
    · exact (iht st p).bind fun a c q ha => (ihf st q).map fun l d r hl =>
        ⟨rfl, List.length_append ▸ YieldsF.cons ha hl⟩
    · exact (ihf st p).map fun l c q hl => ⟨rfl, hl.skip⟩
  case h_vnil =>
    intro st tk tag idx p
    exact Took.err
  case h_vcons =>
    intro n g fs vs ihf ihv st tk tag idx p
    simp only [deVariants]
    exact Took.ite (fun _ => (ihf st p).map fun l c q hl => ⟨rfl, .hit hl⟩)
      fun _ => (ihv st _ _ _ p).mono fun v c h => h.miss

def WorkT (t : Ty) : Prop :=
  occ t = true → ∀ st s v r, de Rd.slice st t s = .ok (v, r) →
    r.length ≤ s.length ∧ v.nodes ≤ costA t + costB t * (s.length - r.length)

theorem work_all : ∀ t : Ty, WorkT t := by
  intro t ho st s v r h
  obtain ⟨c, rfl, hc⟩ := de_reads t st s v r h
  rw [List.length_append, Nat.add_sub_cancel]
  exact ⟨Nat.le_add_left _ _, hc.2 ho⟩

theorem de_cons_all : ∀ t : Ty, ∀ st, Cons (de Rd.slice st t) (fun _ => minWire t) :=
  -- `Cons f w` unfolds to `Reads f fun a c => w a ≤ c.length`, which is what this term proves
  fun t st => (de_reads t st).mono fun _ _ h => h.1

theorem deVec_cons {f : Bytes → Out (Val × Bytes)} {m : Nat} (hf : Cons f fun _ => m) :
    Cons (deVec Rd.slice false f) fun vs => 4 + vs.length * m :=
  (Reads.vec <| Reads.repeat hf (Ψ := fun vs d => vs.length * m ≤ d.length) (Nat.le_of_eq (Nat.zero_mul m))
    fun v c vs d (h : m ≤ c.length) h' => by
      rw [List.length_cons, Nat.succ_mul, Nat.add_comm, List.length_append]; exact Nat.add_le_add h h').mono
    fun vs c ⟨d, _, e, h⟩ => by
      rw [e, List.length_append]; exact Nat.add_le_add (Nat.le_of_eq (leBytes_length 4 _).symm) h

end Borsh
