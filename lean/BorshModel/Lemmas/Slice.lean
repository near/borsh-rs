/-
  The slice reader in closed form: `read_exact` and the chunked loop of
  `u8::vec_from_reader` both deliver exactly `take n` / `drop n`, for every `n`
  (so the > 1 MiB path of the loop is covered by proof, not by sample vectors).
-/
import BorshModel.De
namespace Borsh

/-- the buffer `u8::vec_from_reader` hands to `read` is never empty and never longer than what is
still wanted -/
theorem cap_step {a cap len : Nat} (ha : a ≤ cap) (hc : cap ≤ len) (h0 : 0 < cap ∨ len = 0)
    (hlt : a < len) :
    a < (if (a == cap) = true then min (2 * cap) len else cap) ∧
      (if (a == cap) = true then min (2 * cap) len else cap) ≤ len := by
  by_cases he : a = cap
  · subst he
    have h0 : 0 < a := h0.elim id fun h => absurd (h ▸ hlt) (Nat.not_lt_zero _)
    rw [if_pos (beq_self_eq_true a)]
    exact ⟨Nat.lt_min.mpr ⟨Nat.two_mul a ▸ Nat.lt_add_of_pos_left h0, hlt⟩, Nat.min_le_right ..⟩
  · rw [if_neg fun h => he (eq_of_beq h)]
    exact ⟨Nat.lt_of_le_of_ne ha he, hc⟩

/-- a first chunk of `q` bytes (all of `s`, if that is shorter) and then `r` more: the same as
taking them at once -/
theorem chunk_split (s : Bytes) (q r : Nat) :
    ((s.take q).length + r ≤ s.length ↔ r ≤ (s.drop q).length) ∧
    s.take q ++ (s.drop q).take r = s.take ((s.take q).length + r) ∧
    (s.drop q).drop r = s.drop ((s.take q).length + r) := by
  by_cases h : q ≤ s.length
  · rw [List.length_take_of_le h, List.take_add, List.drop_drop, List.length_drop]
    exact ⟨(Nat.le_sub_iff_add_le' h).symm, rfl, rfl⟩
  · have h : s.length ≤ q := Nat.le_of_not_le h
    rw [List.take_of_length_le h, List.drop_of_length_le h,
      List.take_of_length_le (Nat.le_add_right ..), List.drop_of_length_le (Nat.le_add_right ..)]
    exact ⟨Nat.add_le_add_iff_left (k := 0), by rw [List.take_nil, List.append_nil], List.drop_nil⟩

/-- one round of the loop in numbers: `r` bytes wanted, `q` of them asked for, `k` delivered of
the `n` that are left -/
theorem round_arith {q r k n fuel : Nat} (hq : 0 < q) (hle : q ≤ r) (hk : k = min q n)
    (hf : r < fuel + 1) :
    (k = 0 → ¬ r ≤ n) ∧ (k ≠ 0 → ∃ r', r = k + r' ∧ r' < fuel ∧ k ≤ q) := by
  have hkq : k ≤ q := hk ▸ Nat.min_le_left ..
  refine ⟨fun h0 h => ?_, fun h => ⟨r - k, (Nat.add_sub_cancel' (Nat.le_trans hkq hle)).symm, ?_, hkq⟩⟩
  · rcases Nat.min_eq_zero_iff.mp (hk ▸ h0) with h' | h'
    · exact Nat.ne_of_gt hq h'
    · exact Nat.not_le_of_gt hq (Nat.le_trans hle (h' ▸ h))
  · exact Nat.sub_lt_right_of_lt_add (Nat.le_trans hkq hle)
      (Nat.lt_of_lt_of_le hf (Nat.add_le_add_left (Nat.pos_of_ne_zero h) fuel))

/-- the loop on a slice, with `r` bytes still wanted -/
theorem bulkLoop_slice_rem (len : Nat) : ∀ (fuel cap : Nat) (acc s : Bytes) (r : Nat),
    r < fuel → acc.length + r = len → acc.length ≤ cap → cap ≤ len → (0 < cap ∨ len = 0) →
    bulkLoop sliceRead fuel len cap acc s =
      if r ≤ s.length then .ok (acc ++ s.take r, s.drop r) else .err eUnexpectedLength := by
  intro fuel
  induction fuel with
  | zero => intro _ _ _ _ h; exact absurd h (Nat.not_lt_zero _)
  | succ fuel ih =>
    intro cap acc s r hf hr hacc hcap hc0
    rw [bulkLoop]
    by_cases hlt : acc.length < len
    · rw [if_pos hlt]
      obtain ⟨hq, hle⟩ := cap_step hacc hcap hc0 hlt
      generalize (if (acc.length == cap) = true then min (2 * cap) len else cap) = cap' at hq hle
      subst hr
      -- `read` is asked for `cap' - acc.length` bytes and delivers `k`
      obtain ⟨h0, h1⟩ := round_arith (Nat.sub_pos_of_lt hq) (Nat.sub_le_iff_le_add'.mpr hle)
        List.length_take hf
      have hs := chunk_split s (cap' - acc.length)
      simp only [sliceRead, Out.bind_ok]
      generalize hlen : (s.take (cap' - acc.length)).length = k at h0 h1 hs ⊢
      by_cases hk : k = 0
      · rw [if_pos (beq_iff_eq.mpr hk), if_neg (h0 hk)]
      · obtain ⟨r', rfl, hr', hc⟩ := h1 hk
        obtain ⟨h1, h2, h3⟩ := hs r'
        rw [if_neg (mt beq_iff_eq.mp hk),
          ih cap' _ _ r' hr' (by rw [List.length_append, hlen, Nat.add_assoc])
            (by rw [List.length_append, hlen]; exact Nat.add_le_of_le_sub' (Nat.le_of_lt hq) hc) hle
            (.inl (Nat.zero_lt_of_lt hq)),
          List.append_assoc, h2, h3]
        simp only [h1]
    · cases Nat.eq_zero_of_not_pos fun h => hlt (hr ▸ Nat.lt_add_of_pos_right h)
      rw [if_neg hlt, if_pos (Nat.zero_le _), List.take_zero, List.append_nil, List.drop_zero]

theorem bulkLoop_slice (fuel len cap : Nat) (acc s : Bytes)
    (hfuel : len - acc.length < fuel) (hacc : acc.length ≤ cap) (hcap : cap ≤ len)
    (hpos : 0 < cap ∨ len = 0) :
    bulkLoop sliceRead fuel len cap acc s =
      if len - acc.length ≤ s.length then
        .ok (acc ++ s.take (len - acc.length), s.drop (len - acc.length))
      else .err eUnexpectedLength :=
  bulkLoop_slice_rem len fuel cap acc s _ hfuel (Nat.add_sub_cancel' (Nat.le_trans hacc hcap)) hacc hcap
    hpos

/-- `u8::vec_from_reader(len, &mut slice)` -/
theorem slice_readBulk (len : Nat) (bs : Bytes) :
    Rd.slice.readBulk len bs =
      if len ≤ bs.length then .ok (bs.take len, bs.drop len) else .err eUnexpectedLength :=
  bulkLoop_slice_rem len (len + 1) (min len bulkCap) [] bs len (Nat.lt_succ_self _) (Nat.zero_add _)
    (Nat.zero_le _) (Nat.min_le_left ..)
    ((Nat.eq_zero_or_pos len).symm.imp (fun h => Nat.lt_min.mpr ⟨h, by decide⟩) id)

theorem slice_readExact (n : Nat) (bs : Bytes) :
    Rd.slice.readExact n bs = if n ≤ bs.length then .ok (bs.take n, bs.drop n) else .err eEof :=
  ite_cond_congr (propext (lengthGe_iff bs n))

end Borsh
