/-
  Totality of the schema analyses: with the fuel the entry points supply (`|definitions| + 1`) the
  recursion never runs out (`Fueled.induct`), and no level panics if the levels below do not.  Hence
  none of `max_serialized_size`, `is_zero_size`, `validate` panics or diverges, on any container
  (cycles, dangling names, hostile widths included).
-/
import BorshModel.Lemmas.Nodes
namespace Borsh

def PathOk (c : Container) (path : List Name) : Prop :=
  path.Nodup ∧ ∀ x ∈ path, x ∈ c.defs.map (·.1)

theorem pathOk_nil (c : Container) : PathOk c [] := ⟨List.nodup_nil, fun _ h => nomatch h⟩

/-- the stack is in order and there is fuel for every definition not yet on it -/
def Fueled (c : Container) (fuel : Nat) (path : List Name) : Prop :=
  PathOk c path ∧ c.defs.length + 1 ≤ path.length + fuel

theorem Fueled.nil (c : Container) : Fueled c (c.defs.length + 1) [] := ⟨pathOk_nil c, Nat.le_add_left _ _⟩

/-- pigeonhole: a duplicate-free stack of defined names is no longer than the definition map -/
theorem Fueled.succ {c : Container} {fuel : Nat} {path : List Name} (h : Fueled c fuel path) :
    ∃ n, fuel = n + 1 := by
  cases fuel with
  | succ n => exact ⟨n, rfl⟩
  | zero =>
    have hl := List.Nodup.length_le_of_subset h.1.1 h.1.2
    rw [List.length_map] at hl
    exact absurd (Nat.le_trans h.2 hl) (Nat.not_succ_le_self _)

theorem Fueled.cons {c : Container} {fuel : Nat} {path : List Name} {d : Name} {df : Defn}
    (h : Fueled c (fuel + 1) path) (hd : path.contains d = false) (hg : c.get d = some df) :
    Fueled c fuel (d :: path) := by
  refine ⟨⟨List.nodup_cons.mpr ⟨fun hm => ?_, h.1.1⟩, fun x hx => ?_⟩, ?_⟩
  · exact Bool.eq_false_iff.mp hd (List.contains_iff_mem.mpr hm)
  · rcases List.mem_cons.mp hx with rfl | hx
    · exact List.mem_map_of_mem (f := (·.1)) (Container.get_mem hg)
    · exact h.1.2 x hx
  · rw [List.length_cons, Nat.add_assoc, Nat.add_comm 1]; exact h.2

theorem Fueled.induct {c : Container} {P : Nat → Name → List Name → Prop}
    (step : ∀ fuel d path, (∀ df, path.contains d = false → c.get d = some df →
      ∀ e, P fuel e (d :: path)) → P (fuel + 1) d path) :
    ∀ fuel d path, Fueled c fuel path → P fuel d path := by
  intro fuel
  induction fuel with
  | zero => intro d path h; obtain ⟨n, hn⟩ := h.succ; cases hn
  | succ fuel ih => exact fun d path h => step fuel d path fun df hd hg e => ih e _ (h.cons hd hg)

theorem cAdd_noPanic (x y : Nat) : (cAdd x y).isPanic = false := Res.ite_noPanic rfl rfl
theorem cMul_noPanic (x y : Nat) : (cMul x y).isPanic = false := Res.ite_noPanic rfl rfl

theorem sumWith_noPanic {f : Name → MaxRes} (hf : ∀ e, (f e).isPanic = false) :
    ∀ (es : List Name) (acc : Nat), (sumWith f es acc).isPanic = false
  | [], _ => rfl
  | e :: es, _ => Res.bind_noPanic (hf e) fun _ =>
      Res.bind_noPanic (cAdd_noPanic _ _) fun a => sumWith_noPanic hf es a

theorem maxWith_noPanic {f : Name → MaxRes} (hf : ∀ e, (f e).isPanic = false) :
    ∀ (es : List Name) (acc : Nat), (maxWith f es acc).isPanic = false
  | [], _ => rfl
  | e :: es, _ => Res.bind_noPanic (hf e) fun _ => maxWith_noPanic hf es _

theorem maxNode_noPanic {r : Nat → Name → MaxRes} (hr : ∀ n e, (r n e).isPanic = false) (df : Defn) :
    (maxNode r df).isPanic = false := by
  cases df with
  | primitive size => rfl
  | sequence lw lo hi e =>
    exact Res.bind_noPanic (Res.ite_noPanic rfl (hr _ _)) fun _ => cAdd_noPanic _ _
  | «enum» tw vs => exact Res.bind_noPanic (maxWith_noPanic (hr 1) _ _) fun _ => cAdd_noPanic _ _
  | tuple es | struct es => exact sumWith_noPanic (hr 1) _ _

theorem maxSize_noPanic (c : Container) : ∀ (fuel count : Nat) (d : Name) (path : List Name),
    PathOk c path → c.defs.length + 1 ≤ path.length + fuel →
    (maxSize c fuel count d path).isPanic = false :=
  fun fuel count d path hp hl =>
    Fueled.induct (P := fun fuel d path => ∀ count, (maxSize c fuel count d path).isPanic = false)
      (fun fuel d path ih count => by
        rw [maxSize_step]
        exact guarded_ind (P := fun x => Res.isPanic x = false) (fun _ => rfl) (fun _ _ => rfl) fun df hd hg =>
          Res.bind_noPanic (maxNode_noPanic (fun n e => ih df hd hg e n) _) fun _ => cMul_noPanic _ _)
      fuel d path ⟨hp, hl⟩ count

theorem allWith_noPanic {f : Name → Res ZsErr Bool} (hf : ∀ e, (f e).isPanic = false) :
    ∀ es : List Name, (allWith f es).isPanic = false
  | [] => rfl
  | e :: es => Res.bind_noPanic (hf e) fun _ => Res.ite_noPanic (allWith_noPanic hf es) rfl

theorem zsNode_noPanic {r : Name → Res ZsErr Bool} (hr : ∀ e, (r e).isPanic = false) (df : Defn) :
    (zsNode r df).isPanic = false := by
  cases df with
  | primitive size => rfl
  | sequence lw lo hi e => exact Res.ite_noPanic (Res.ite_noPanic rfl (hr _)) rfl
  | «enum» tw vs => exact Res.ite_noPanic (allWith_noPanic hr _) rfl
  | tuple es | struct es => exact allWith_noPanic hr _

theorem isZeroSize_noPanic (c : Container) : ∀ (fuel : Nat) (d : Name) (path : List Name),
    Fueled c fuel path → (isZeroSize c fuel d path).isPanic = false :=
  Fueled.induct fun fuel d path ih => by
    rw [isZeroSize_step]
    exact guarded_ind (P := fun x => Res.isPanic x = false) (fun _ => rfl) (fun _ _ => rfl) fun df hd hg =>
      zsNode_noPanic (ih df hd hg) _

theorem eachWith_noPanic {f : Name → Res ValErr Unit} (hf : ∀ e, (f e).isPanic = false) :
    ∀ es : List Name, (eachWith f es).isPanic = false
  | [] => rfl
  | e :: es => Res.bind_noPanic (hf e) fun _ => eachWith_noPanic hf es

theorem checkLengthWidth_noPanic (d : Name) (w max : Nat) : (checkLengthWidth d w max).isPanic = false := by
  rw [checkLengthWidth_eq]; exact Res.ite_noPanic rfl rfl

theorem valNode_noPanic {zs : Name → Res ZsErr Bool} {r : Name → Res ValErr Unit}
    (hz : ∀ e, (zs e).isPanic = false) (hr : ∀ e, (r e).isPanic = false) (d : Name) (df : Defn) :
    (valNode zs r d df).isPanic = false := by
  cases df with
  | primitive size => rfl
  | sequence lw lo hi e =>
    refine Res.ite_noPanic (hr _) (Res.ite_noPanic rfl
      (Res.bind_noPanic (checkLengthWidth_noPanic _ _ _) fun _ => ?_))
    have hze := hz e
    cases hzs : zs e with
    | ok b =>
      cases b with
      | true => rfl
      | false => exact hr _
    | error x =>
      cases x with
      | recursive => exact hr _
      | missing m => rfl
    | panic p => rw [hzs] at hze; cases hze
  | «enum» tw vs => exact Res.ite_noPanic rfl (eachWith_noPanic hr _)
  | tuple es | struct es => exact eachWith_noPanic hr _

theorem validateImpl_noPanic (c : Container) : ∀ (fuel : Nat) (d : Name) (path : List Name),
    PathOk c path → c.defs.length + 1 ≤ path.length + fuel →
    (validateImpl c fuel d path).isPanic = false :=
  fun fuel d path hp hl =>
    Fueled.induct (P := fun fuel d path => (validateImpl c fuel d path).isPanic = false)
      (fun fuel d path ih => by
        rw [validateImpl_step]
        split
        · rfl
        · split
          · rfl
          · exact valNode_noPanic (fun e => isZeroSize_noPanic c _ e [] (.nil c))
              (ih _ (Bool.eq_false_iff.mpr ‹_›) ‹_›) _ _)
      fuel d path ⟨hp, hl⟩

end Borsh
