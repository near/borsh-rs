/-
  The slice decoder against the specification encoding, in both directions (`Dec`; `Acc`, a `Reads`),
  for element loops and length prefixes.
-/
import BorshModel.Lemmas.SpecRefine
import BorshModel.Lemmas.Reads
namespace Borsh
/-- `g` reads every encoding `e v` of `v`, followed by anything, as `c v` -/
def Dec (g : Bytes → Out (Val × Bytes)) (e : Val → Spec.R) (c : Val → Val) (v : Val) : Prop :=
  ∀ b, e v = .ok b → ∀ rest, g (b ++ rest) = .ok (c v, rest)

/-- whatever `g` accepts is an encoding of the value it returns, which satisfies `P` -/
def Acc (g : Bytes → Out (Val × Bytes)) (e : Val → Spec.R) (P : Val → Bool) : Prop :=
  Reads g fun v c => P v = true ∧ e v = .ok c

variable {g : Bytes → Out (Val × Bytes)} {e : Val → Spec.R} {c : Val → Val} {P : Val → Bool}

theorem repeatDe_dec (vs : List Val) (h : ∀ v ∈ vs, Dec g e c v) {b : Bytes}
    (hb : Spec.concat (vs.map e) = .ok b) (rest : Bytes) :
    repeatDe g vs.length (b ++ rest) = .ok (vs.map c, rest) := by
  induction vs generalizing b with
  | nil => cases hb; rfl
  | cons v vs ih =>
    obtain ⟨a, ha, d, hd, rfl⟩ := Spec.concat_cons_ok.mp hb
    rw [List.length_cons, repeatDe, List.append_assoc, h v (by simp) a ha, Out.bind_ok,
      ih (fun w hw => h w (by simp [hw])) hd]
    rfl

theorem repeatDe_acc (h : Acc g e P) (n : Nat) : Reads (repeatDe g n) fun vs c =>
    vs.length = n ∧ vs.all P = true ∧ Spec.concat (vs.map e) = .ok c :=
  Reads.repeat h (Ψ := fun vs c => vs.all P = true ∧ Spec.concat (vs.map e) = .ok c) ⟨rfl, rfl⟩
    (fun v c vs d hv hvs => ⟨by rw [List.all_cons, hv.1, hvs.1]; rfl,
      Spec.concat_cons_ok.mpr ⟨c, hv.2, d, hvs.2, rfl⟩⟩) n

theorem deVec_dec (vs : List Val) (h : ∀ v ∈ vs, Dec g e c v) {z : Bool} {b : Bytes}
    (hb : Spec.sized z (vs.map e) = .ok b) (rest : Bytes) :
    z = false ∧ deVec Rd.slice false g (b ++ rest) = .ok (vs.map c, rest) := by
  obtain ⟨hz, hl, d, hd, rfl⟩ := Spec.sized_ok.mp hb
  rw [List.length_map] at hl
  refine ⟨hz, ?_⟩
  rw [deVec_false, List.length_map, List.append_assoc, readU32_ok.mpr ⟨hl, rfl⟩]
  exact repeatDe_dec vs h hd rest

theorem deVec_acc (h : Acc g e P) : Reads (deVec Rd.slice false g) fun vs c =>
    vs.all P = true ∧ Spec.sized false (vs.map e) = .ok c :=
  (Reads.vec (repeatDe_acc h)).mono fun vs c ⟨d, hn, hc, hall, hd⟩ =>
    ⟨hall, Spec.sized_ok.mpr ⟨rfl, by rwa [List.length_map], d, hd, by rw [hc, List.length_map]⟩⟩

end Borsh
