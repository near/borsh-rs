/- The converse, strict mode: whatever the slice decoder accepts is a specification encoding of
   the well-typed value it returns. -/
import BorshModel.Lemmas.Wire
import BorshModel.Lemmas.Variant
import BorshModel.Lemmas.IntCodec
import BorshModel.Lemmas.SortLaws
namespace Borsh

/-- the motive of `bwd_all` -/
def Bwd (t : Ty) : Prop := Acc (de Rd.slice true t) (Spec.enc t) (HasTy t)
def BwdF (fs : List Field) : Prop :=
  Reads (deFields Rd.slice true fs) fun vs c => HasTyFields fs vs = true ∧ Spec.encFields fs vs = .ok c

theorem bwd_seq (k : SeqK) (t : Ty) (hk : k ≠ .indexSet) (hw : WfTy (.seq k t) = true)
    (ih : Bwd t) : Bwd (.seq k t) := by
  intro p
  simp only [WfTy, Bool.and_eq_true] at hw
  rw [de_seq_slice _ _ _ _ (fun h => by simpa [h] using hw.2)]
  refine Took.ite (fun _ => Took.err) fun hz => (deVec_acc ih p).map ?_
  rintro vs c q ⟨hall, hb⟩
  have hlist : k ≠ .vecDeque → HasTy (.seq k t) (.list vs) = true ∧ Spec.enc (.seq k t) (.list vs) = .ok c :=
    fun hv => ⟨by rw [HasTy, bne_iff_ne.mpr hv, hall, bne_iff_ne.mpr hk]; rfl,
      by simp only [Spec.enc, hz, Bool.and_false]; exact hb⟩
  cases k with
  | indexSet => exact absurd rfl hk
  | vecDeque =>
    exact ⟨rfl, by simp only [HasTy, hall, beq_self_eq_true, List.all_nil, Bool.and_self],
      by simp only [Spec.enc, hz, List.append_nil]; exact hb⟩
  | _ => exact ⟨rfl, hlist nofun⟩


theorem sa_distinct (key : Val → Val) (l : List Val) (h : strictlyAscending key l = true) :
    distinctKeys key l = true :=
  (distinct_iff_pairwise key l).mpr (((sa_iff_pairwise key l).mp h).imp fun h e => by rw [h] at e; cases e)

theorem bwd_set (k : SetK) (t : Ty) (ih : Bwd t) : Bwd (.set k t) := by
  intro p
  simp only [de, deVec_slice]
  refine Took.ite (fun _ => Took.err) fun hz => (deVec_acc ih p).guard ?_
  rintro vs c q ⟨hall, hb⟩
  refine Took.ite (fun _ => Took.err) fun hsa => ?_
  replace hsa : strictlyAscending id vs = true := by simpa using hsa
  rw [collectSet_of_sa vs hsa]
  refine Took.pure ⟨rfl, ?_, ?_⟩
  · cases k <;> simp only [HasTy, hall, hsa, sa_distinct id vs hsa, Bool.and_self]
  · cases k <;> simp only [Spec.enc, hz, sortByKey_of_sa id vs hsa] <;> exact hb

theorem entry_acc {kt vt : Ty} (ihk : Bwd kt) (ihv : Bwd vt) :
    Acc (deEntry (de Rd.slice true kt) (de Rd.slice true vt)) (encEntry (Spec.enc kt) (Spec.enc vt))
      (fun e => match e with
        | .list [a, b] => HasTy kt a && HasTy vt b
        | _ => false) := by
  intro p
  refine (ihk p).bind ?_
  rintro a x q ⟨ha, hx⟩
  refine (ihv q).map ?_
  rintro b y r ⟨hb, hy⟩
  exact ⟨rfl, Bool.and_eq_true_iff.mpr ⟨ha, hb⟩, Spec.append_ok.mpr ⟨x, hx, y, hy, rfl⟩⟩

theorem bwd_map (k : MapK) (kt vt : Ty) (hk : k ≠ .indexMap) (ihk : Bwd kt) (ihv : Bwd vt) :
    Bwd (.map k kt vt) := by
  intro p
  simp only [de]
  refine Took.ite (fun _ => Took.err) fun hz => (deVec_acc (entry_acc ihk ihv) p).guard ?_
  rintro es c q ⟨hall, hb⟩
  cases k with
  | indexMap => exact absurd rfl hk
  | _ =>
    refine Took.ite (fun _ => Took.err) fun hsa => ?_
    replace hsa : strictlyAscending entryKey es = true := by simpa using hsa
    rw [collectMap_of_sa es hsa]
    refine Took.pure ⟨rfl, ?_, ?_⟩
    · simp only [HasTy, hsa, sa_distinct entryKey es hsa, Bool.and_true]; exact hall
    · rw [enc_map]; simp only [hz, sortByKey_of_sa entryKey es hsa]; exact hb

/-- **Strict-mode decoding is injective on what it accepts**: every accepted input is a
specification encoding of the (well-typed) value returned, for every well-formed type of `revTy`.
The proof follows the clauses of the decoder, hence `Ty.induct'` where `fwd_all` has
`Ty.induct_step`: `de` branches on the type alone, and there is no value to split on before the
decode. -/
theorem bwd_all : ∀ t : Ty, revTy t = true → WfTy t = true → Bwd t := by
  apply Ty.induct' (P := fun t => revTy t = true → WfTy t = true → Bwd t)
    (PF := fun fs => revTyFields fs = true → WfFields fs = true → BwdF fs)
  case h_int =>
    intro k _ _ p
    refine (readMapped_reads _ p).map ?_
    rintro r c q ⟨rfl, hl⟩
    obtain ⟨hr, he⟩ := encInt_decInt k c hl
    exact ⟨rfl, hr, congrArg Except.ok he⟩
  case h_nonzero =>
    intro k _ _ p
    refine (readMapped_reads _ p).guard ?_
    rintro r c q ⟨rfl, hl⟩
    obtain ⟨hr, he⟩ := encInt_decInt k c hl
    exact Took.ite (fun _ => Took.err) fun hz => Took.pure ⟨rfl,
      Bool.and_eq_true_iff.mpr ⟨hr, bne_iff_ne.mpr fun h => hz (beq_iff_eq.mpr h)⟩, congrArg Except.ok he⟩
  case h_float =>
    intro k _ _ p
    refine (readMapped_reads _ p).guard ?_
    rintro r c q ⟨rfl, hl⟩
    refine Took.ite (fun _ => Took.err) fun hn => Took.pure ⟨rfl, ?_, ?_⟩
    · simp only [HasTy, Bool.and_eq_true, decide_eq_true_eq]
      exact ⟨Int.natCast_nonneg _, by rw [pow256_cast]; exact Int.ofNat_lt.mpr (hl ▸ ofLe_lt c)⟩
    · rw [Spec.enc, Int.toNat_natCast, if_neg hn, ← hl, leBytes_ofLe]
  case h_bool =>
    intro _ _ p
    refine (readU8_reads p).guard ?_
    rintro b c q rfl
    exact Took.ite (fun h0 => Took.pure ⟨rfl, rfl, congrArg (fun x => Except.ok [x]) (eq_of_beq h0).symm⟩)
      fun _ => Took.ite (fun h1 => Took.pure ⟨rfl, rfl, congrArg (fun x => Except.ok [x]) (eq_of_beq h1).symm⟩)
        fun _ => Took.err
  case h_str =>
    intro k _ _ p
    refine (deByteVec_reads p).guard ?_
    rintro a c q hc
    have he := (Spec.enc_str_ok (k := k)).mpr hc
    exact Took.ite (fun hk => Took.ite (fun ha => Took.pure ⟨rfl, (if_pos hk).trans ha, he⟩) fun _ => Took.err)
      fun hk => Took.ite (fun ha => Took.pure ⟨rfl, (if_neg hk).trans ha, he⟩) fun _ => Took.err
  case h_asciiChar =>
    intro _ _ p
    refine (readU8_reads p).guard ?_
    rintro b c q rfl
    refine Took.ite (fun hlt => Took.pure ⟨rfl, ?_, ?_⟩) fun _ => Took.err
    · simp only [HasTy, Bool.and_eq_true, decide_eq_true_eq]
      exact ⟨Int.natCast_nonneg _, Int.ofNat_lt.mpr (UInt8.lt_iff_toNat_lt.mp hlt)⟩
    · rw [Spec.enc, Int.toNat_natCast, UInt8.ofNat_toNat]
  case h_raw =>
    intro k _ _ p
    refine (readMapped_reads _ p).map ?_
    rintro r c q ⟨rfl, hl⟩
    exact ⟨rfl, beq_iff_eq.mpr hl, rfl⟩
  case h_custom =>
    intro t _ _ hw p
    cases isU32_eq hw
    refine (readMapped_reads _ p).map ?_
    rintro r c q ⟨rfl, hl⟩
    obtain ⟨hr, he⟩ := encInt_decInt .u32 c.reverse ((List.length_reverse ..).trans hl)
    refine ⟨rfl, hr, ?_⟩
    show Except.ok (encInt .u32 (decInt .u32 c.reverse)).reverse = _
    rw [he, List.reverse_reverse]
  case h_seq =>
    intro k t ih hr hw
    simp only [revTy, Bool.and_eq_true, bne_iff_ne, ne_eq] at hr
    have hw' := hw
    simp only [WfTy, Bool.and_eq_true] at hw'
    exact bwd_seq k t hr.1 hw (ih hr.2 hw'.1.1)
  case h_set => intro k t ih hr hw; exact bwd_set k t (ih hr hw)
  case h_map =>
    intro k a b iha ihb hr hw
    simp only [revTy, Bool.and_eq_true, bne_iff_ne, ne_eq] at hr
    simp only [WfTy, Bool.and_eq_true] at hw
    exact bwd_map k a b hr.1.1 (iha hr.1.2 hw.1) (ihb hr.2 hw.2)
  case h_array =>
    intro n t ih hr hw p
    rw [de_array_slice]
    refine (repeatDe_acc (ih hr hw) n p).map ?_
    rintro vs c q ⟨hl, hall, hb⟩
    exact ⟨rfl, Bool.and_eq_true_iff.mpr ⟨beq_iff_eq.mpr hl, hall⟩, hb⟩
  case h_prod =>
    intro k fs ih hr hw p
    simp only [revTy, Bool.and_eq_true, Bool.not_eq_eq_eq_not, Bool.not_true] at hr
    simp only [de, hr.1, Bool.false_eq_true, if_false]
    exact (ih hr.2 hw p).map fun vs c q h => ⟨rfl, h⟩
  case h_sum =>
    intro k vs ih hr hw p
    simp only [revTy, Bool.and_eq_true, Bool.not_eq_eq_eq_not, Bool.not_true] at hr
    simp only [WfTy, Bool.and_eq_true] at hw
    refine (readU8_reads p).bind ?_
    -- the search for the tag has no rule of its own: `Took` is unfolded
    rintro tag c q rfl v rest h
    obtain ⟨⟨w, _⟩, hd, e⟩ := Out.map_eq_ok_iff.mp h
    cases e
    obtain ⟨idx, x, hx, rfl, r, hr', rfl⟩ := deVariants_ok hd
    have hm := List.mem_of_getElem? hx
    obtain ⟨b, rfl, ht, hb⟩ := ih x hm (revTyVariants_mem hr.2 x hm) (WfVariants_mem hw.1 x hm) _ _ _ hr'
    rw [hr.1, Nat.zero_add]
    refine ⟨b, rfl, ?_, ?_⟩
    · show HasTyVariant vs idx r = true
      rw [HasTyVariant_eq, hx]
      exact ht
    · show Spec.encVariant vs idx r = _
      simp only [encVariant_eq, hx, hb]
      rfl
  case h_wrap =>
    intro k t ih hr hw bs v rest h
    rw [de] at h
    simp only [HasTy, Spec.enc]
    exact ih hr hw _ _ _ h
  case h_fnil => exact fun _ _ _ => Took.pure ⟨rfl, rfl⟩
  case h_fcons =>
    intro n sk t fs iht ihf hr hw p
    simp only [revTyFields, Bool.and_eq_true] at hr
    simp only [WfFields, Bool.and_eq_true] at hw
    rw [deFields]
    cases sk
    · refine (iht hr.1 hw.1 p).bind ?_
      rintro a x q ⟨ha, hx⟩
      refine (ihf hr.2 hw.2 q).map ?_
      rintro ws y r ⟨hws, hy⟩
      exact ⟨rfl, Bool.and_eq_true_iff.mpr ⟨ha, hws⟩, Spec.append_ok.mpr ⟨x, hx, y, hy, rfl⟩⟩
    · refine (ihf hr.2 hw.2 p).map ?_
      rintro ws y r ⟨hws, hy⟩
      exact ⟨rfl, Bool.and_eq_true_iff.mpr ⟨hr.1, hws⟩, hy⟩

def RevG (g : Bytes → Out (Val × Bytes)) (f : Val → Tr) (P : Val → Prop) : Prop :=
  ∀ bs v rest, g bs = .ok (v, rest) → P v ∧ (f v).Ok ∧ (f v).bytes ++ rest = bs

/-- the converse at `t`, on the serializer's traces (strict mode); the induction proves `Bwd`
(`bwd_all`), and `Rev` follows by `Bwd.rev` -/
def Rev (t : Ty) : Prop :=
  RevG (de Rd.slice true t) (ser t) (fun v => HasTy t v = true)

theorem Bwd.rev {t : Ty} (h : Bwd t) : Rev t := by
  intro bs v rest hd
  obtain ⟨b, rfl, ht, hb⟩ := h bs v rest hd
  obtain ⟨hok, rfl⟩ := (enc_ok_iff ht).mp hb
  exact ⟨ht, hok, rfl⟩

theorem reverse_all : ∀ t : Ty, revTy t = true → WfTy t = true → Rev t :=
  fun t hr hw => (bwd_all t hr hw).rev

end Borsh
