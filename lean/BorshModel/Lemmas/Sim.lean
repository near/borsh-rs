/-
  Reader simulation: if two readers answer `read_exact` and the byte-vector read alike (up to
  a relation between their states), then the whole decoder behaves alike over them, for every
  type of the universe.  Instance: slice vs scripted reader (C11).
-/
import BorshModel.De
import BorshModel.Lemmas.DeRel
namespace Borsh

section
variable {σ₁ σ₂ : Type} (R : σ₁ → σ₂ → Prop)

def OutRel {α : Type} : Out (α × σ₁) → Out (α × σ₂) → Prop
  | .ok a, .ok b => a.1 = b.1 ∧ R a.2 b.2
  | .err e, .err e' => e = e'
  | .panic p, .panic q => p = q
  | _, _ => False

def SimF {α : Type} (f : σ₁ → Out (α × σ₁)) (g : σ₂ → Out (α × σ₂)) : Prop :=
  ∀ s₁ s₂, R s₁ s₂ → OutRel R (f s₁) (g s₂)

structure RdSim (rd₁ : Rd σ₁) (rd₂ : Rd σ₂) : Prop where
  exact : ∀ n, SimF R (rd₁.readExact n) (rd₂.readExact n)
  bulk : ∀ n, SimF R (rd₁.readBulk n) (rd₂.readBulk n)

variable {R}

theorem OutRel.of_ok {α : Type} {a : α × σ₁} {y : Out (α × σ₂)} (h : OutRel R (.ok a) y) :
    ∃ b, y = .ok b ∧ a.1 = b.1 ∧ R a.2 b.2 := by
  cases y with
  | ok b => exact ⟨b, rfl, h⟩
  | err e => exact h.elim
  | panic p => exact h.elim

theorem OutRel.of_err {α : Type} {e : Err} {y : Out (α × σ₂)}
    (h : OutRel R (.err e : Out (α × σ₁)) y) : y = .err e := by
  cases y with
  | ok b => exact h.elim
  | err e' => exact congrArg _ (Eq.symm h)
  | panic p => exact h.elim

theorem OutRel.of_panic {α : Type} {p : PanicSite} {y : Out (α × σ₂)}
    (h : OutRel R (.panic p : Out (α × σ₁)) y) : y = .panic p := by
  cases y with
  | ok b => exact h.elim
  | err e => exact h.elim
  | panic q => exact congrArg _ (Eq.symm h)

theorem SimF.bind {α β : Type} {f : σ₁ → Out (α × σ₁)} {g : σ₂ → Out (α × σ₂)}
    {k₁ : α → σ₁ → Out (β × σ₁)} {k₂ : α → σ₂ → Out (β × σ₂)}
    (hf : SimF R f g) (hk : ∀ a, SimF R (k₁ a) (k₂ a)) :
    SimF R (fun s => (f s).bindS k₁) (fun s => (g s).bindS k₂) := by
  intro s₁ s₂ hR
  have := hf s₁ s₂ hR
  show OutRel R ((f s₁).bind fun r => k₁ r.1 r.2) ((g s₂).bind fun r => k₂ r.1 r.2)
  cases h1 : f s₁ <;> rw [h1] at this
  · obtain ⟨b, h2, e, hR'⟩ := this.of_ok
    rw [h2, Out.bind_ok, Out.bind_ok, ← e]
    exact hk _ _ _ hR'
  · rw [this.of_err]; rfl
  · rw [this.of_panic]; rfl

theorem SimF.mapErr {α : Type} {f : σ₁ → Out (α × σ₁)} {g : σ₂ → Out (α × σ₂)}
    (hf : SimF R f g) (h : Err → Err) :
    SimF R (fun s => (f s).mapErr h) (fun s => (g s).mapErr h) := by
  intro s₁ s₂ hR
  have := hf s₁ s₂ hR
  show OutRel R ((f s₁).mapErr h) ((g s₂).mapErr h)
  cases h1 : f s₁ <;> rw [h1] at this
  · obtain ⟨b, h2, h3⟩ := this.of_ok
    rw [h2]; exact h3
  · rw [this.of_err]; rfl
  · rw [this.of_panic]; rfl

theorem SimF.pure {α : Type} (a : α) : SimF R (fun s => Out.ok (a, s)) (fun s => Out.ok (a, s)) := by
  intro s₁ s₂ hR; exact ⟨rfl, hR⟩

theorem SimF.err {α : Type} (e : Err) :
    SimF R (fun _ => (Out.err e : Out (α × σ₁))) (fun _ => (Out.err e : Out (α × σ₂))) := by
  intro s₁ s₂ _; rfl

variable {rd₁ : Rd σ₁} {rd₂ : Rd σ₂} (h : RdSim R rd₁ rd₂)
include h

theorem readMapped_sim (n : Nat) : SimF R (readMapped rd₁ n) (readMapped rd₂ n) :=
  SimF.mapErr (h.exact n) _

theorem RdSim.deRel : DeRel (SimF R) rd₁ rd₂ where
  pure := SimF.pure
  err e _ := SimF.err e
  bind := SimF.bind
  mapped := readMapped_sim h
  u8 := readU8_rel SimF.pure (fun _ _ _ _ => rfl) (SimF.bind (readMapped_sim h 1))
  bulk := h.bulk

end

section
variable {σ₁ σ₂ : Type} {R : σ₁ → σ₂ → Prop} {rd₁ : Rd σ₁} {rd₂ : Rd σ₂}

theorem de_sim (h : RdSim R rd₁ rd₂) :
    ∀ t : Ty, ∀ st, SimF R (de rd₁ st t) (de rd₂ st t) :=
  fun t st => de_rel_st h.deRel st t

end

end Borsh
