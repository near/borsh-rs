/- Key types: the canonical form of a well-typed value is the value itself. -/
import BorshModel.Canon
import BorshModel.Lemmas.Clauses
import BorshModel.Lemmas.Induct
import BorshModel.Lemmas.SortLaws
namespace Borsh

theorem map_id_of {f : Val → Val} (vs : List Val) (h : ∀ v ∈ vs, f v = v) : vs.map f = vs :=
  (List.map_congr_left h).trans (List.map_id vs)

theorem canon_id_all :
    ∀ t : Ty, keyTy t = true → ∀ v, HasTy t v = true → canon t v = v := by
  apply Ty.induct_step (P := fun t => keyTy t = true → ∀ v, HasTy t v = true → canon t v = v)
    (PF := fun fs => keyTyFields fs = true → ∀ vs, HasTyFields fs vs = true → canonFields fs vs = vs)
    (PV := fun vs => keyTyVariants vs = true → ∀ idx fvs, HasTyVariant vs idx fvs = true →
      canonVariant vs idx fvs = fvs)
  case step =>
    intro t ih hk v
    fun_cases canon t v
    -- `keyTy` and `HasTy` at a composite type are conjunctions of checks, taken apart by unfolding
    next k t vs =>  -- `seq`, a list
      intro hv
      obtain ⟨h1, _⟩ := Bool.and_eq_true_iff.mp hv
      obtain ⟨_, hall⟩ := Bool.and_eq_true_iff.mp h1
      obtain ⟨_, hk⟩ := Bool.and_eq_true_iff.mp hk
      rw [map_id_of vs fun w hw => ih hk w (List.all_eq_true.mp hall w hw)]
    next k t a b =>  -- `seq`, a deque
      intro hv
      obtain ⟨h1, _⟩ := Bool.and_eq_true_iff.mp hv
      obtain ⟨hd, _⟩ := Bool.and_eq_true_iff.mp h1
      obtain ⟨hnd, _⟩ := Bool.and_eq_true_iff.mp hk
      exact absurd (eq_of_beq hd) (bne_iff_ne.mp hnd)
    next k t vs =>  -- `set`
      intro hv
      obtain ⟨hall, hsa⟩ := Bool.and_eq_true_iff.mp hv
      obtain ⟨hb, hk⟩ := Bool.and_eq_true_iff.mp hk
      cases eq_of_beq hb
      rw [sortByKey_of_sa id vs hsa, map_id_of vs fun w hw => ih hk w (List.all_eq_true.mp hall w hw)]
    next => cases hk  -- `map`, `indexMap`
    next k kt vt es _ =>  -- `map`, the other kinds
      intro hv
      obtain ⟨hall, hsa⟩ := Bool.and_eq_true_iff.mp hv
      obtain ⟨h1, hkv⟩ := Bool.and_eq_true_iff.mp hk
      obtain ⟨hb, hkk⟩ := Bool.and_eq_true_iff.mp h1
      cases eq_of_beq hb
      rw [sortByKey_of_sa entryKey es hsa, map_id_of es fun e he => ?_]
      obtain ⟨a, b, rfl, ha, hb⟩ := entry_pair (List.all_eq_true.mp hall e he)
      rw [canonEntry, ih.1 hkk a ha, ih.2 hkv b hb]
    next n t vs =>  -- `array`
      intro hv
      obtain ⟨_, hall⟩ := Bool.and_eq_true_iff.mp hv
      rw [map_id_of vs fun w hw => ih hk w (List.all_eq_true.mp hall w hw)]
    next k fs vs r =>  -- `prod`
      intro hv
      simp only [keyTy, Bool.and_eq_true, Bool.not_eq_true'] at hk
      rw [hk.1, if_neg nofun]
      exact congrArg Val.list (ih hk.2 vs hv)
    next k vs idx fvs r =>  -- `sum`
      intro hv
      simp only [keyTy, Bool.and_eq_true, Bool.not_eq_true'] at hk
      rw [hk.1, if_neg nofun]
      exact congrArg (Val.variant idx) (ih hk.2 idx fvs hv)
    next k t => exact ih hk v  -- `wrap`
    next => exact fun _ => rfl  -- the last clause
  case h_fnil =>
    intro _ vs hv
    cases vs with
    | nil => rfl
    | cons v vs => cases hv
  case h_fcons =>
    intro n sk t fs iht ihf hk vs hv
    simp only [keyTyFields, Bool.and_eq_true, Bool.not_eq_true'] at hk
    cases vs with
    | nil => cases hv
    | cons v vs =>
      simp only [HasTyFields, Bool.and_eq_true] at hv
      rw [canonFields, hk.1.1, if_neg nofun, iht hk.1.2 v hv.1, ihf hk.2 vs hv.2]
  case h_vnil => exact fun _ _ _ => nofun
  case h_vcons =>
    intro n g fs vs ihf ihv hk idx fvs hv
    simp only [keyTyVariants, Bool.and_eq_true] at hk
    cases idx with
    | zero => exact ihf hk.1 fvs hv
    | succ i => exact ihv hk.2 i fvs hv

end Borsh
