/-
  The decoder is built from three reads (`readMapped`, `readU8`, the byte-vector read) by `ok`,
  `err`, `bind` and case distinctions on what was read.  So whatever relation between two
  reader computations (or, ignoring one side, whatever predicate of one) holds of the reads and is
  kept by `ok`, `err` and `bind` holds of `de` at every type.
-/
import BorshModel.De
import BorshModel.Lemmas.Induct
namespace Borsh

/-- `bind` of a computation that hands a state on, its continuation taking value and state apart.
Rewriting the decoder's clauses to this form (`Out.bind_eq_bindS`, `Out.map_eq_bindS`) is what lets
the rules below apply to them as they stand: a continuation `k` applied to `(a, s)` shows `(a, s).1`
where a rule expects `a`. -/
def Out.bindS {α σ β : Type} (x : Out (α × σ)) (k : α → σ → Out β) : Out β :=
  x.bind fun r => k r.1 r.2

theorem Out.bind_eq_bindS {α σ β : Type} (x : Out (α × σ)) (k : α × σ → Out β) :
    x.bind k = x.bindS fun a s => k (a, s) := rfl

theorem Out.map_eq_bindS {α σ β : Type} (f : α × σ → β) (x : Out (α × σ)) :
    x.map f = x.bindS fun a s => .ok (f (a, s)) := by
  cases x <;> rfl

section
variable {σ₁ σ₂ : Type}

structure DeRel (Q : ∀ {α : Type}, (σ₁ → Out (α × σ₁)) → (σ₂ → Out (α × σ₂)) → Prop)
    (rd₁ : Rd σ₁) (rd₂ : Rd σ₂) : Prop where
  pure : ∀ {α : Type} (a : α), Q (fun s => .ok (a, s)) (fun s => .ok (a, s))
  -- the kind is wanted by `Safe` alone; every error `de` raises has it by `rfl`
  err : ∀ {α : Type} (e : Err), e.kind = .invalidData → Q (α := α) (fun _ => .err e) (fun _ => .err e)
  bind : ∀ {α β : Type} {f : σ₁ → Out (α × σ₁)} {g : σ₂ → Out (α × σ₂)}
    {k₁ : α → σ₁ → Out (β × σ₁)} {k₂ : α → σ₂ → Out (β × σ₂)},
    Q f g → (∀ a, Q (k₁ a) (k₂ a)) → Q (fun s => (f s).bindS k₁) (fun s => (g s).bindS k₂)
  mapped : ∀ n, Q (readMapped rd₁ n) (readMapped rd₂ n)
  u8 : Q (readU8 rd₁) (readU8 rd₂)
  bulk : ∀ n, Q (rd₁.readBulk n) (rd₂.readBulk n)

abbrev DePred {σ : Type} (P : ∀ {α : Type}, (σ → Out (α × σ)) → Prop) (rd : Rd σ) : Prop :=
  DeRel (fun f _ => P f) rd rd

variable {Q : ∀ {α : Type}, (σ₁ → Out (α × σ₁)) → (σ₂ → Out (α × σ₂)) → Prop}
  {rd₁ : Rd σ₁} {rd₂ : Rd σ₂}

/-- a case distinction that does not look at the reader state needs nothing of `Q` -/
theorem DeRel.ite {α : Type} {c : Prop} {_ : Decidable c} {f f' : σ₁ → Out (α × σ₁)}
    {g g' : σ₂ → Out (α × σ₂)} (h : Q f g) (h' : Q f' g') :
    Q (fun s => if c then f s else f' s) (fun s => if c then g s else g' s) := by
  by_cases hc : c <;> simp only [hc, if_true, if_false] <;> assumption

/-- `readU8` from `readMapped 1`, for a `Q` that lets the (unreachable) panic pass -/
theorem readU8_rel (pure : ∀ (b : UInt8), Q (fun s => .ok (b, s)) (fun s => .ok (b, s)))
    (panic : ∀ p, Q (α := UInt8) (fun _ => .panic p) (fun _ => .panic p))
    (bind : ∀ {k₁ : Bytes → σ₁ → Out (UInt8 × σ₁)} {k₂ : Bytes → σ₂ → Out (UInt8 × σ₂)},
      (∀ a, Q (k₁ a) (k₂ a)) →
      Q (fun s => (readMapped rd₁ 1 s).bindS k₁) (fun s => (readMapped rd₂ 1 s).bindS k₂)) :
    Q (readU8 rd₁) (readU8 rd₂) := by
  unfold readU8
  simp only [Out.bind_eq_bindS]
  refine bind fun a => ?_
  split
  · exact pure _
  · exact panic _

variable (h : DeRel Q rd₁ rd₂)
include h

theorem DeRel.u32 : Q (readU32 rd₁) (readU32 rd₂) := by
  unfold readU32
  simp only [Out.map_eq_bindS]
  exact h.bind (h.mapped 4) fun a => h.pure (ofLe a)

theorem DeRel.byteVec : Q (deByteVec rd₁) (deByteVec rd₂) := by
  unfold deByteVec
  simp only [Out.bind_eq_bindS]
  exact h.bind h.u32 fun n => DeRel.ite (h.pure _) (h.bulk n)

theorem DeRel.repeat {f : σ₁ → Out (Val × σ₁)} {g : σ₂ → Out (Val × σ₂)} (hf : Q f g) :
    ∀ n, Q (repeatDe f n) (repeatDe g n)
  | 0 => h.pure _
  | n + 1 => by
    show Q (fun s => repeatDe f (n + 1) s) (fun s => repeatDe g (n + 1) s)
    simp only [repeatDe, Out.bind_eq_bindS]
    exact h.bind hf fun a => h.bind (DeRel.repeat hf n) fun b => h.pure _

theorem DeRel.vec (isU8 : Bool) {f : σ₁ → Out (Val × σ₁)} {g : σ₂ → Out (Val × σ₂)}
    (hf : Q f g) : Q (deVec rd₁ isU8 f) (deVec rd₂ isU8 g) := by
  unfold deVec
  simp only [Out.map_eq_bindS, Out.bind_eq_bindS]
  exact h.bind h.u32 fun n =>
    DeRel.ite (h.pure _) (DeRel.ite (h.bind (h.bulk n) fun b => h.pure _) (h.repeat hf n))

theorem DeRel.entry {dk dv : σ₁ → Out (Val × σ₁)} {dk' dv' : σ₂ → Out (Val × σ₂)}
    (hk : Q dk dk') (hv : Q dv dv') : Q (deEntry dk dv) (deEntry dk' dv') := by
  unfold deEntry
  simp only [Out.map_eq_bindS, Out.bind_eq_bindS]
  exact h.bind hk fun a => h.bind hv fun b => h.pure _

/-- **the fundamental lemma of the decoder**; the two sides may run in different key-order modes,
given `hord` for the one place where the mode is looked at -/
theorem de_rel (st₁ st₂ : Bool)
    (hord : ∀ {α : Type} (c : Bool) (a : α),
      Q (fun s => if (st₁ && c) = true then .err eKeyOrder else .ok (a, s))
        (fun s => if (st₂ && c) = true then .err eKeyOrder else .ok (a, s))) :
    ∀ t, Q (de rd₁ st₁ t) (de rd₂ st₂ t) := by
  apply Ty.induct (P := fun t => Q (fun s => de rd₁ st₁ t s) (fun s => de rd₂ st₂ t s))
    (PF := fun fs => Q (fun s => deFields rd₁ st₁ fs s) (fun s => deFields rd₂ st₂ fs s))
    (PV := fun vs => ∀ tk tag idx,
      Q (fun s => deVariants rd₁ st₁ tk vs tag idx s) (fun s => deVariants rd₂ st₂ tk vs tag idx s))
  case h_int | h_raw =>
    intro k
    simp only [de, Out.map_eq_bindS]
    exact h.bind (h.mapped _) fun a => h.pure _
  case h_nonzero | h_float =>
    intro k
    simp only [de, Out.bind_eq_bindS]
    exact h.bind (h.mapped _) fun a => DeRel.ite (h.err _ rfl) (h.pure _)
  case h_bool =>
    simp only [de, Out.bind_eq_bindS]
    exact h.bind h.u8 fun a => DeRel.ite (h.pure _) (DeRel.ite (h.pure _) (h.err _ rfl))
  case h_str =>
    intro k
    simp only [de, Out.bind_eq_bindS]
    exact h.bind h.byteVec fun a =>
      DeRel.ite (DeRel.ite (h.pure _) (h.err _ rfl)) (DeRel.ite (h.pure _) (h.err _ rfl))
  case h_asciiChar =>
    simp only [de, Out.bind_eq_bindS]
    exact h.bind h.u8 fun a => DeRel.ite (h.pure _) (h.err _ rfl)
  case h_seq =>
    intro k t ih
    simp only [de, Out.map_eq_bindS, Out.bind_eq_bindS]
    split
    · exact h.bind h.u32 fun n => h.bind (h.repeat (h.bind h.u8 fun b => h.pure _) n) fun l => h.pure _
    · refine DeRel.ite (h.err _ rfl) (h.bind (h.vec _ ih) fun l => ?_)
      split <;> exact h.pure _
  case h_set =>
    intro k t ih
    simp only [de, Out.bind_eq_bindS]
    exact DeRel.ite (h.err _ rfl) (h.bind (h.vec _ ih) fun l => hord _ _)
  case h_map =>
    intro k a b iha ihb
    simp only [de, Out.bind_eq_bindS]
    refine DeRel.ite (h.err _ rfl) (h.bind (h.vec _ (h.entry iha ihb)) fun l => ?_)
    cases k
    case indexMap => exact h.pure _
    all_goals exact hord _ _
  case h_array =>
    intro n t ih
    simp only [de, Out.map_eq_bindS]
    exact DeRel.ite (h.bind (h.mapped _) fun a => h.pure _) (h.bind (h.repeat ih n) fun l => h.pure _)
  case h_prod =>
    intro k fs ih
    simp only [de, Out.map_eq_bindS]
    exact h.bind ih fun l => h.pure _
  case h_sum =>
    intro k vs ih
    simp only [de, Out.map_eq_bindS, Out.bind_eq_bindS]
    exact h.bind h.u8 fun tag => h.bind (ih _ _ _) fun v => h.pure _
  case h_wrap =>
    intro k t ih
    simp only [de]
    exact ih
  case h_custom =>
    intro t _
    simp only [de, Out.map_eq_bindS]
    exact h.bind (h.mapped _) fun a => h.pure _
  case h_fnil =>
    simp only [deFields]
    exact h.pure _
  case h_fcons =>
    intro n sk t fs iht ihf
    simp only [deFields, Out.map_eq_bindS, Out.bind_eq_bindS]
    exact DeRel.ite (h.bind ihf fun l => h.pure _) (h.bind iht fun a => h.bind ihf fun l => h.pure _)
  case h_vnil =>
    intro tk tag idx
    simp only [deVariants]
    exact h.err _ rfl
  case h_vcons =>
    intro n g fs vs ihf ihv tk tag idx
    simp only [deVariants, Out.map_eq_bindS]
    exact DeRel.ite (h.bind ihf fun l => h.pure _) (ihv _ _ _)

theorem de_rel_st (st : Bool) : ∀ t, Q (de rd₁ st t) (de rd₂ st t) :=
  de_rel h st st fun _ _ => DeRel.ite (h.err _ rfl) (h.pure _)

end
end Borsh
