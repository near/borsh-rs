/-
  The schema analyses one level at a time.  `max_serialized_size`, `is_zero_size`, `validate` and the
  specification `specMax` all recurse in the same way: a declaration on the stack or without a
  definition is answered on the spot (`guarded`; `validate` looks the definition up first), otherwise
  the answer is a function (`maxNode`, `zsNode`, `valNode`, `specNode`) of the definition and of the
  answers for its children at one fuel less, under the stack extended by the declaration.  A struct
  is the tuple of its fields' declarations (the `Fields.empty` shortcuts compute what the general arm
  computes on `[]`).  `max_serialized_size` takes a multiplier: `maxNode` is the size of one item, and
  the multiplication comes last.  What is proved about an analysis is proved about its node function, without
  recursion, and lifted by a fuel induction that only uses the `_step` equation.  The schema-only
  reader is treated in the same way in `Lemmas/Walk.lean`.
-/
import BorshModel.SchemaCodec
import BorshModel.ValidateSpec
import BorshModel.Lemmas.Res
namespace Borsh

theorem Container.get_mem {c : Container} {d : Name} {df : Defn} (h : c.get d = some df) :
    (d, df) ∈ c.defs := by
  obtain ⟨e, he, rfl⟩ := Option.map_eq_some_iff.mp h
  have hd := List.find?_some he
  exact eq_of_beq hd ▸ List.mem_of_find?_eq_some he

def guarded {α : Type} (c : Container) (d : Name) (path : List Name) (s m : α) (k : Defn → α) : α :=
  if path.contains d then s
  else match c.get d with
    | none => m
    | some df => k df

section
variable {α : Type} {c : Container} {d : Name} {path : List Name} {s m : α} {k : Defn → α}

theorem guarded_of {df : Defn} (hd : path.contains d = false) (hg : c.get d = some df) :
    guarded c d path s m k = k df := by
  rw [guarded, hd, hg]; rfl

theorem guarded_ind {P : α → Prop} (hs : path.contains d = true → P s)
    (hm : path.contains d = false → c.get d = none → P m)
    (hk : ∀ df, path.contains d = false → c.get d = some df → P (k df)) : P (guarded c d path s m k) := by
  unfold guarded
  cases hd : path.contains d with
  | true => exact hs hd
  | false =>
    cases hg : c.get d with
    | none => exact hm hd hg
    | some df => exact hk df hd hg

theorem guarded_eq {v : α} (h : guarded c d path s m k = v) (hs : s ≠ v) (hm : m ≠ v) :
    ∃ df, path.contains d = false ∧ c.get d = some df ∧ k df = v :=
  guarded_ind (P := fun x => x = v → _) (fun _ e => absurd e hs) (fun _ _ e => absurd e hm)
    (fun df hd hg e => ⟨df, hd, hg, e⟩) h
end

def zsNode (r : Name → Res ZsErr Bool) : Defn → Res ZsErr Bool
  | .primitive size => .ok (size == 0)
  | .sequence lw lo hi e => if lw == 0 then (if lo == hi && lo == 0 then .ok true else r e) else .ok false
  | .tuple es => allWith r es
  | .enum tw vs => if tw == 0 then allWith r (vs.map (·.2.2)) else .ok false
  | .struct fs => allWith r fs.decls

theorem isZeroSize_step (c : Container) (fuel : Nat) (d : Name) (path : List Name) :
    isZeroSize c (fuel + 1) d path =
      guarded c d path (.error .recursive) (.error (.missing d))
        (zsNode fun e => isZeroSize c fuel e (d :: path)) := by
  rw [isZeroSize, guarded]
  cases c.get d with
  | none => rfl
  | some df => rcases df with _ | _ | _ | _ | ⟨_ | _ | _⟩ <;> rfl

theorem checkLengthWidth_eq (d : Name) (w max : Nat) :
    checkLengthWidth d w max =
      if lengthWidthOk w max then .ok ()
      else .error (if w = 3 ∨ w = 5 ∨ w = 6 ∨ w = 7 then .tagNotPowerOfTwo d
                   else if w ≤ 7 then .tagTooNarrow d else .tagTooWide d) := by
  match w with
  | 0 | 8 | 3 | 5 | 6 | 7 => rfl
  | 1 | 2 | 4 | n + 9 => simp [checkLengthWidth, lengthWidthOk]

theorem checkLengthWidth_ok_iff (d : Name) (w max : Nat) :
    checkLengthWidth d w max = .ok () ↔ lengthWidthOk w max = true := by
  rw [checkLengthWidth_eq]; split <;> simp [*]

theorem lengthWidthOk_iff (w max : Nat) :
    lengthWidthOk w max = true ↔ (w = 0 ∨ w = 8 ∨ ((w = 1 ∨ w = 2 ∨ w = 4) ∧ max < 2 ^ (w * 8))) := by
  simp [lengthWidthOk, or_assoc]

theorem lengthWidthOk_false {w max : Nat}
    (h : (w = 3 ∨ w = 5 ∨ w = 6 ∨ w = 7) ∨ ((w = 1 ∨ w = 2 ∨ w = 4) ∧ 2 ^ (w * 8) ≤ max) ∨ 8 < w) :
    lengthWidthOk w max = false :=
  Bool.eq_false_iff.mpr fun hok => by have := (lengthWidthOk_iff w max).mp hok; omega

theorem checkLengthWidth_error {d : Name} {w max : Nat} {e : ValErr}
    (h : checkLengthWidth d w max = .error e) :
    (e = .tagNotPowerOfTwo d ∧ (w = 3 ∨ w = 5 ∨ w = 6 ∨ w = 7)) ∨
    (e = .tagTooNarrow d ∧ (w = 1 ∨ w = 2 ∨ w = 4) ∧ 2 ^ (w * 8) ≤ max) ∨
    (e = .tagTooWide d ∧ 8 < w) := by
  rw [checkLengthWidth_eq] at h
  cases hok : lengthWidthOk w max with
  | true => rw [hok] at h; cases h
  | false =>
    have hno := mt (lengthWidthOk_iff w max).mpr (by rw [hok]; decide)
    rw [hok] at h; cases h
    by_cases h1 : w = 3 ∨ w = 5 ∨ w = 6 ∨ w = 7
    · exact .inl ⟨if_pos h1, h1⟩
    · have h0 : w ≠ 0 ∧ w ≠ 8 := ⟨fun h => hno (.inl h), fun h => hno (.inr (.inl h))⟩
      by_cases h2 : w ≤ 7
      · have hw : w = 1 ∨ w = 2 ∨ w = 4 :=
          (by decide : ∀ w ≤ 7, w ≠ 0 → ¬(w = 3 ∨ w = 5 ∨ w = 6 ∨ w = 7) → w = 1 ∨ w = 2 ∨ w = 4) w h2 h0.1 h1
        exact .inr (.inl ⟨by rw [if_neg h1, if_pos h2], hw,
          Nat.le_of_not_lt fun hlt => hno (.inr (.inr ⟨hw, hlt⟩))⟩)
      · exact .inr (.inr ⟨by rw [if_neg h1, if_neg h2], Nat.lt_of_le_of_ne (Nat.not_le.mp h2) (Ne.symm h0.2)⟩)

/-- `zs` stands for the zero-size analysis run from scratch on a sequence's element -/
def valNode (zs : Name → Res ZsErr Bool) (r : Name → Res ValErr Unit) (d : Name) : Defn → Res ValErr Unit
  | .primitive _ => .ok ()
  | .sequence lw lo hi elem =>
    if isFixedLen lw lo hi then r elem
    else if hi < lo then .error (.emptyLengthRange d)
    else (checkLengthWidth d lw hi).bind fun _ =>
      match zs elem with
      | .ok true => .error (.zstSequence d)
      | .ok false => r elem
      | .error .recursive => r elem
      | .error (.missing m) => .error (.missing m)
      | .panic p => .panic p
  | .enum tw vs => if tw > 8 then .error (.tagTooWide d) else eachWith r (vs.map (·.2.2))
  | .tuple es => eachWith r es
  | .struct fs => eachWith r fs.decls

theorem validateImpl_step (c : Container) (fuel : Nat) (d : Name) (path : List Name) :
    validateImpl c (fuel + 1) d path =
      match c.get d with
      | none => .error (.missing d)
      | some df =>
        if path.contains d then .ok ()
        else valNode (fun e => isZeroSize c (c.defs.length + 1) e [])
          (fun e => validateImpl c fuel e (d :: path)) d df := by
  rw [validateImpl]
  cases c.get d with
  | none => rfl
  | some df => cases df <;> rfl

def maxNode (r : Nat → Name → MaxRes) : Defn → MaxRes
  | .primitive size => .ok size
  -- `Ok(None) => 0` in max_size.rs: at `hi = 0` the element is not visited, so it may be missing or cyclic
  | .sequence lw _ hi e => (if hi = 0 then (.ok 0 : MaxRes) else r hi e).bind fun sz => cAdd sz lw
  | .enum tw vs => (maxWith (r 1) (vs.map (·.2.2)) 0).bind fun m => cAdd m tw
  | .tuple es => sumWith (r 1) es 0
  | .struct fs => sumWith (r 1) fs.decls 0

theorem maxSize_step (c : Container) (fuel count : Nat) (d : Name) (path : List Name) :
    maxSize c (fuel + 1) count d path =
      guarded c d path (.error .recursive) (.error (.missing d)) fun df =>
        (maxNode (fun n e => maxSize c fuel n e (d :: path)) df).bind (cMul count) := by
  rw [maxSize, guarded]
  by_cases hp : path.contains d = true
  · rw [if_pos hp, if_pos hp]
  rw [if_neg hp, if_neg hp]
  cases c.get d with
  | none => rfl
  | some df =>
    cases df with
    | primitive size =>
      -- the shortcut for size 0, and `size * count` for `count * size`
      show (if size = 0 then .ok 0 else cMul size count) = cMul count size
      by_cases h : size = 0
      · rw [if_pos h, h]; rfl
      · rw [if_neg h, cMul, cMul, Nat.mul_comm]
    | sequence lw lo hi e | «enum» tw vs => exact (Res.bind_assoc _ _ _).symm
    | tuple es => rfl
    | struct fs => cases fs <;> rfl

theorem SpecSize.bind_eq_fin {x : SpecSize} {f : Nat → SpecSize} {n : Nat}
    (h : x.bind f = .fin n) : ∃ a, x = .fin a ∧ f a = .fin n := by
  cases x with
  | fin a => exact ⟨a, rfl, h⟩
  | unbounded => cases h
  | missing d => cases h

def specNode (r : Name → SpecSize) : Defn → SpecSize
  | .primitive s => .fin s
  | .sequence lw _ hi e => if hi = 0 then .fin lw else (r e).bind fun n => .fin (lw + hi * n)
  | .tuple es => specSum r es
  | .enum tw vs => (specMaxOf r (vs.map (·.2.2))).bind fun m => .fin (tw + m)
  | .struct fs => specSum r fs.decls

theorem specMax_step (c : Container) (fuel : Nat) (d : Name) (path : List Name) :
    specMax c (fuel + 1) d path =
      guarded c d path .unbounded (.missing d) (specNode fun e => specMax c fuel e (d :: path)) := by
  rw [specMax, guarded]
  cases c.get d with
  | none => rfl
  | some df => cases df <;> rfl

end Borsh
