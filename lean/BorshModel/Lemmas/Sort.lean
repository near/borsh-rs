/- The insertion sort that models `slice::sort` rearranges its input: what holds of every
   permutation (members, length) holds of the sorted list. -/
import BorshModel.Ord
namespace Borsh

theorem perm_insertSorted (key : Val → Val) (x : Val) (ys : List Val) :
    (insertSorted key x ys).Perm (x :: ys) := by
  induction ys with
  | nil => exact .refl _
  | cons y ys ih =>
    rw [insertSorted]
    split
    · exact .refl _
    · exact (ih.cons y).trans (.swap x y ys)

theorem perm_sortByKey (key : Val → Val) (vs : List Val) : (sortByKey key vs).Perm vs := by
  induction vs with
  | nil => exact .refl _
  | cons v vs ih => exact (perm_insertSorted key v _).trans (ih.cons v)

theorem mem_sortByKey (key : Val → Val) (y : Val) (vs : List Val) :
    y ∈ sortByKey key vs ↔ y ∈ vs :=
  (perm_sortByKey key vs).mem_iff

theorem length_sortByKey (key : Val → Val) (vs : List Val) :
    (sortByKey key vs).length = vs.length :=
  (perm_sortByKey key vs).length_eq

end Borsh
