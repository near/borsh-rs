/-
  C08 for derived types: the container `for_type` builds binds every declaration the type refers
  to as intended (`Bnd`) for **every** type of the universe — derived structs and enums with the
  derive's "already present" shortcut included — provided the type is *name-coherent*: no two
  different guarded items (derived structs, per-variant inner structs, `Ipv4Addr`-style built-ins)
  share a declaration, and no guarded item shares its declaration with an unguarded one.
  Finding F8 is exactly a type that is not coherent.

  The proof threads an invariant (`Pre`) through `add_definitions_recursively`, by a calculus of steps
  (`Step`) with one rule for each building block of `addDefs` and one induction (`addDefs_step`).
-/
import BorshModel.Coherent
import BorshModel.Lemmas.TyBeq
import BorshModel.Lemmas.DefMap
namespace Borsh

def Pres (f : Defs → Res Unit Defs) : Prop :=
  ∀ m m', DSorted m → f m = .ok m' → DSorted m' ∧ DSub (dget m) (dget m')

theorem Pres.ins (d : Name) (df : Defn) : Pres (insertDef d df) := by
  intro m m' hs h
  obtain ⟨a, _, c, _⟩ := insertDef_spec hs h
  exact ⟨a, c⟩

theorem Pres.id : Pres (fun m => .ok m) := by
  intro m m' hs h; cases h; exact ⟨hs, DSub.refl _⟩

theorem Pres.bind {f g : Defs → Res Unit Defs} (hf : Pres f) (hg : Pres g) :
    Pres (fun m => (f m).bind g) := by
  intro m m' hs h
  obtain ⟨m1, h1, h2⟩ := Res.bind_eq_ok h
  obtain ⟨a, b⟩ := hf m m1 hs h1
  obtain ⟨c, d⟩ := hg m1 m' a h2
  exact ⟨c, DSub.trans b d⟩

theorem Pres.ite {f g : Defs → Res Unit Defs} (c : Defs → Bool) (hf : Pres f) (hg : Pres g) :
    Pres (fun m => if c m then f m else g m) := by
  intro m m' hs h
  dsimp only at h
  split at h
  · exact hf m m' hs h
  · exact hg m m' hs h

theorem Pres.panic (p : PanicSite) : Pres (fun _ => .panic p) := by
  intro m m' _ h; cases h

/-- **Name coherence**: among the guarded items of the type (derived structs, per-variant inner
structs, raw address types) a declaration identifies the item; no item contains an item of its own
name; no unguarded declaration of the type is the name of an item; and the two fields of every
`Range` / `RangeInclusive` have one type.  (Rust guarantees the last; the first three say that the
type does not combine two different user types of the same name — what the crate documents as
unsupported and what finding F8 shows is not always detected.) -/
def Coherent (t : Ty) : Prop :=
  (∀ d ∈ items t, ∀ d' ∈ items t, declOf d = declOf d' → d = d') ∧
  (∀ d ∈ items t, ∀ s ∈ itemChildren d, declOf s ≠ declOf d) ∧
  (∀ n ∈ plainNames t, ∀ d ∈ items t, declOf d ≠ n) ∧ rangesOk t = true

/-- every guarded item of the universe `I` whose name is in the map is completely bound, or is
still open (its fields are being processed further up the call stack); `Bnd` reads a container
only through `get`, so the root declaration is arbitrary (`∀ r`) -/
def Pre (I : List Ty) (op : List Name) (m : Defs) : Prop :=
  ∀ d ∈ I, defsContain m (declOf d) = true → (∀ r, Bnd ⟨r, m⟩ d) ∨ declOf d ∈ op

theorem bound_mono {m m' : Defs} (h : DSub (dget m) (dget m')) {t : Ty} (hb : ∀ r, Bnd ⟨r, m⟩ t) :
    ∀ r, Bnd ⟨r, m'⟩ t :=
  fun r => Bnd_mono (c := ⟨r, m⟩) (c' := ⟨r, m'⟩) h t (hb r)

theorem pre_insert {I : List Ty} {op : List Name} {m m' : Defs} {d : Name} {df : Defn}
    (hs : DSorted m) (hp : Pre I op m) (h : insertDef d df m = .ok m')
    (hn : ∀ x ∈ I, declOf x = d → (∀ r, Bnd ⟨r, m'⟩ x) ∨ declOf x ∈ op) : Pre I op m' := by
  intro x hx hc
  rcases defsContain_of_insert hs h hc with hxd | hc
  · exact hn x hx hxd
  · exact (hp x hx hc).imp (bound_mono (insertDef_spec hs h).2.2.1) id

theorem pre_open {I : List Ty} {op : List Name} {m m' : Defs} {d : Name} {df : Defn}
    (hs : DSorted m) (hp : Pre I op m) (h : insertDef d df m = .ok m') : Pre I (d :: op) m' :=
  pre_insert hs (fun x hx hc => (hp x hx hc).imp id (List.mem_cons_of_mem _)) h
    fun _ _ hxd => .inr (hxd ▸ List.mem_cons_self)

theorem pre_close {I : List Ty} {op : List Name} {m : Defs} {t : Ty}
    (hp : Pre I (declOf t :: op) m) (hb : ∀ r, Bnd ⟨r, m⟩ t)
    (h1 : ∀ x ∈ I, declOf x = declOf t → x = t) : Pre I op m := by
  intro x hx hc
  rcases hp x hx hc with h | ho
  · exact .inl h
  · rcases List.mem_cons.mp ho with e | e
    · rw [h1 x hx e]; exact .inl hb
    · exact .inr e

/-! `Step I its pn ok add B`: the program `add` on definition maps keeps the map sorted and growing
(`Pres`), and — when its guarded items `its` lie in the coherent universe `I`, no item of `I` carries
one of its unguarded names `pn`, and `ok` holds — it keeps the invariant `Pre` and establishes `B`
of the resulting map and of every container that extends it: definitions are only added, so what
one step establishes no later step undoes.
`addDefs` is built from `insertDef`, sequencing and the "already present" guard; one rule for each. -/

def Hyp (I : List Ty) (its : List Ty) (pn : List Name) : Prop :=
  (∀ s ∈ its, s ∈ I) ∧ (∀ n ∈ pn, ∀ d ∈ I, declOf d ≠ n)

theorem Hyp.sub {I : List Ty} {its its' : List Ty} {pn pn' : List Name} (h : Hyp I its pn)
    (h1 : ∀ s ∈ its', s ∈ its) (h2 : ∀ n ∈ pn', n ∈ pn) : Hyp I its' pn' :=
  ⟨fun s hs => h.1 s (h1 s hs), fun n hn => h.2 n (h2 n hn)⟩

structure Step (I its : List Ty) (pn : List Name) (ok : Bool) (add : Defs → Res Unit Defs)
    (B : Container → Prop) : Prop where
  pres : Pres add
  goal : Hyp I its pn → ok = true → ∀ op m m', DSorted m → Pre I op m →
    -- an item being entered is not already open
    (∀ s ∈ its, declOf s ∉ op) → add m = .ok m' →
      Pre I op m' ∧ ∀ c : Container, DSub (dget m') c.get → B c

variable {I its its' : List Ty} {pn pn' : List Name} {o o' : Bool} {f g : Defs → Res Unit Defs}
  {A B : Container → Prop}

theorem Step.ins (d : Name) (df : Defn) :
    Step I [] [d] true (insertDef d df) fun c => c.get d = some df :=
  ⟨Pres.ins d df, fun hy _ _ _ _ hs hp _ h =>
    ⟨pre_insert hs hp h fun x hx hxd => absurd hxd (hy.2 d List.mem_cons_self x hx),
      fun _ hc => hc _ _ (insertDef_spec hs h).2.1⟩⟩

theorem Step.ok : Step I [] [] true (fun m => .ok m) fun _ => True :=
  ⟨Pres.id, fun _ _ _ _ _ _ hp _ h => by cases h; exact ⟨hp, fun _ _ => trivial⟩⟩

theorem Step.panic (p : PanicSite) : Step I its pn o (fun _ => .panic p) B :=
  ⟨Pres.panic p, fun _ _ _ _ _ _ _ _ h => nomatch h⟩

/-- `f?; g` -/
theorem Step.bind {its₂ : List Ty} {pn₂ : List Name} {o₂ : Bool} (hf : Step I its pn o f A)
    (hg : Step I its₂ pn₂ o₂ g B) :
    Step I (its ++ its₂) (pn ++ pn₂) (o && o₂) (fun m => (f m).bind g) fun c => A c ∧ B c :=
  ⟨Pres.bind hf.pres hg.pres, fun hy ho op m m' hs hp hop h => by
    obtain ⟨m1, e1, e2⟩ := Res.bind_eq_ok h
    obtain ⟨q1, b1⟩ := hf.goal (hy.sub (fun _ => List.mem_append_left _) fun _ => List.mem_append_left _)
      (both ho).1 op m m1 hs hp (fun s hs => hop s (List.mem_append_left _ hs)) e1
    have s1 := (hf.pres m m1 hs e1).1
    obtain ⟨q2, b2⟩ := hg.goal (hy.sub (fun _ => List.mem_append_right _) fun _ => List.mem_append_right _)
      (both ho).2 op m1 m' s1 q1 (fun s hs => hop s (List.mem_append_right _ hs)) e2
    exact ⟨q2, fun c hc => ⟨b1 c ((hg.pres m1 m' s1 e2).2.trans hc), b2 c hc⟩⟩⟩

theorem Step.mono (h : Step I its pn o f A) (hi : ∀ s ∈ its, s ∈ its') (hp : ∀ n ∈ pn, n ∈ pn')
    (hB : o' = true → o = true ∧ ∀ c, A c → B c) : Step I its' pn' o' f B :=
  ⟨h.pres, fun hy ho op m m' hs hpre hop e =>
    (h.goal (hy.sub hi hp) (hB ho).1 op m m' hs hpre (fun s hs => hop s (hi s hs)) e).imp id
      fun b c hc => (hB ho).2 c (b c hc)⟩

theorem Step.imp (h : Step I its pn o f A) (hB : o' = true → o = true ∧ ∀ c, A c → B c) :
    Step I its pn o' f B :=
  h.mono (fun _ h => h) (fun _ h => h) hB

/-- a guarded item `t`, bound once its name is bound to `df` and `B` holds: if its name is present
nothing below it is added and it is already bound; otherwise its name is open while `g` adds what
is below it.  `h1` and `h3`, here and below, are the first two conjuncts of `Coherent`, said of the
universe `I` of guarded items (`items t` in the end). -/
theorem Step.guard (h1 : ∀ d ∈ I, ∀ d' ∈ I, declOf d = declOf d' → d = d')
    (h3 : ∀ d ∈ I, ∀ s ∈ itemChildren d, declOf s ≠ declOf d) (t : Ty) {df : Defn}
    (hch : ∀ s ∈ its, s ∈ itemChildren t) (hB : ∀ c, c.get (declOf t) = some df → B c → Bnd c t)
    (hg : Step I its pn o g B) :
    Step I (t :: its) pn o
      (fun m => if defsContain m (declOf t) then insertDef (declOf t) df m
        else (insertDef (declOf t) df m).bind g)
      fun c => Bnd c t :=
  ⟨Pres.ite _ (Pres.ins _ _) (Pres.bind (Pres.ins _ _) hg.pres), fun hy ho op m m' hs hp hop h => by
    have hI : t ∈ I := hy.1 t List.mem_cons_self
    have hopt : declOf t ∉ op := hop t List.mem_cons_self
    by_cases hc : defsContain m (declOf t) = true
    · -- present, and not open: already bound; whatever is bound stays so
      rw [if_pos hc] at h
      have keep : ∀ x ∈ I, defsContain m (declOf x) = true → (∀ r, Bnd ⟨r, m'⟩ x) ∨ declOf x ∈ op :=
        fun x hx hcx => (hp x hx hcx).imp (bound_mono (insertDef_spec hs h).2.2.1) id
      exact ⟨pre_insert hs hp h fun x hx hxd => keep x hx (hxd ▸ hc),
        fun c hcm => Bnd_mono (c := ⟨c.decl, m'⟩) hcm t ((keep t hI hc).resolve_right hopt _)⟩
    · rw [if_neg hc] at h
      obtain ⟨m1, e1, e2⟩ := Res.bind_eq_ok h
      obtain ⟨s1, g1, _⟩ := insertDef_spec hs e1
      obtain ⟨p2, b2⟩ := hg.goal (hy.sub (fun s hs => List.mem_cons_of_mem _ hs) fun _ h => h) ho
        (declOf t :: op) m1 m' s1 (pre_open hs hp e1)
        (fun s hs' hmem => by
          cases List.mem_cons.mp hmem with
          | inl e => exact h3 t hI s (hch s hs') e
          | inr e => exact hop s (List.mem_cons_of_mem _ hs') e) e2
      have hbnd : ∀ c : Container, DSub (dget m') c.get → Bnd c t := fun c hcm =>
        hB c (hcm _ _ ((hg.pres m1 m' s1 e2).2 _ _ g1)) (b2 c hcm)
      exact ⟨pre_close p2 (fun r => hbnd ⟨r, m'⟩ (DSub.refl _)) fun x hx e => h1 x hx t hI e, hbnd⟩⟩

/-- `Result<T, E>`: `addDefs` and `Bnd` both ask whether there are exactly two payload declarations;
with any other number `addDefs` is the `unreachable!` panic -/
theorem Step.pair (l : List Name) {F : Name → Name → Defs → Res Unit Defs} {p : PanicSite}
    {G : Name → Name → Container → Prop} {H : Container → Prop}
    (h : ∀ e t, Step I its pn o (F e t) fun c => G e t c ∧ H c) :
    Step I its pn o
      (fun m => match l with
        | [e, t] => F e t m
        | _ => .panic p)
      (fun c => (match l with
        | [e, t] => G e t c
        | _ => False) ∧ H c) :=
  match l with
  | [e, t] => h e t
  | [] | [_] | _ :: _ :: _ :: _ => Step.panic p

/-- `Range<T>`: both fields have the type of the first -/
theorem range_fields {c : Container} {fs : List Field}
    (h : (match fs with
      | [(_, _, a), (_, _, b)] => Ty.beq a b
      | _ => false) = true)
    (hb : ∀ n s t rest, fs = (n, s, t) :: rest → Bnd c t) : BndFields c fs := by
  split at h
  · rename_i a _ _ b
    cases Ty.beq_eq a b h
    exact ⟨hb _ _ _ _ rfl, hb _ _ _ _ rfl, trivial⟩
  · cases h

def StepT (I : List Ty) (t : Ty) : Prop :=
  Step I (items t) (plainNames t) (rangesOk t) (fun m => addDefs t m) fun c => Bnd c t

theorem addDefs_step (I : List Ty) (h1 : ∀ d ∈ I, ∀ d' ∈ I, declOf d = declOf d' → d = d')
    (h3 : ∀ d ∈ I, ∀ s ∈ itemChildren d, declOf s ≠ declOf d) : ∀ t : Ty, StepT I t := by
  apply Ty.induct (P := StepT I)
    (PF := fun fs =>
      Step I (itemsFields fs) (plainNamesFields fs) (rangesOkFields fs) (fun m => addDefsFields fs m)
        (fun c => BndFields c fs) ∧
      Step I (itemsKept fs) (plainNamesKept fs) (rangesOkKept fs) (fun m => addDefsKept fs m)
        (fun c => BndKept c fs) ∧
      Step I (itemsHead fs) (plainNamesHead fs) (rangesOkFields fs) (fun m => addDefsHead fs m)
        (fun c => ∀ n s t rest, fs = (n, s, t) :: rest → Bnd c t))
    (PV := fun vs =>
      Step I (itemsVariants vs) (plainNamesVariants vs) (rangesOkVariants vs)
        (fun m => addDefsVariants vs m) (fun c => BndVariants c vs) ∧
      ∀ d, Step I (itemsInner d vs) (plainNamesInner vs) (rangesOkInner vs)
        (fun m => addDefsInner d vs m) (fun c => BndInner c d vs))
  case h_int | h_nonzero | h_float => intro k; exact Step.ins _ _
  case h_bool | h_asciiChar => exact Step.ins _ _
  case h_str =>
    intro k
    cases k <;> exact (Step.ins _ _).bind (Step.ins _ _)
  case h_raw =>
    intro k
    exact Step.guard h1 h3 (.raw k) (fun _ h => nomatch h) (fun _ h hb => ⟨h, hb⟩)
      ((Step.ins _ _).bind (Step.ins _ _))
  case h_seq | h_set | h_array => intro k t ih; exact (Step.ins _ _).bind ih
  case h_map =>
    intro k a b iha ihb
    exact (Step.ins _ _).bind ((Step.ins _ _).bind (iha.bind ihb))
  case h_wrap => intro k t ih; exact ih
  case h_custom => intro t ih; exact ih
  case h_fnil =>
    exact ⟨Step.ok, Step.ok, Step.ok.imp fun _ => ⟨rfl, fun _ _ _ _ _ _ e => nomatch e⟩⟩
  case h_fcons =>
    intro n s t fs iht ihf
    refine ⟨?_, ?_, iht.imp fun ho =>
      ⟨(both ho).1, fun _ h _ _ _ _ e => by cases e; exact h⟩⟩
    · exact iht.bind ihf.1
    · cases s
      · exact (iht.bind ihf.2.1).imp fun ho => ⟨ho, fun _ h => ⟨Or.inr h.1, h.2⟩⟩
      · exact ihf.2.1.imp fun ho => ⟨ho, fun _ h => ⟨Or.inl rfl, h⟩⟩
  case h_vnil =>
    exact ⟨Step.ok, fun _ => Step.ok⟩
  case h_vcons =>
    intro n g fs vs ihf ihv
    refine ⟨?_, fun d => ?_⟩
    · exact ihf.1.bind ihv.1
    · exact (Step.guard h1 h3 (.prod (.struct (d ++ n) false) fs) (fun _ h => h)
        (fun _ h hb => ⟨h, hb⟩) ihf.2.1).bind (ihv.2 d)
  case h_prod =>
    intro k fs ih
    have hF := fun df => (Step.ins (I := I) (declOf (.prod k fs)) df).bind ih.1
    cases k with
    | tuple | rangeFrom | rangeTo | rangeToInclusive => exact hF _
    | unit | phantom | rangeFull =>
      exact (Step.ins _ _).mono (fun _ h => nomatch h) (fun _ h => h) fun _ => ⟨rfl, fun _ h => h⟩
    | sockV4 | sockV6 => exact Step.panic _
    | struct name i =>
      exact (Step.guard h1 h3 (.prod (.struct name i) fs) (fun _ h => h)
        (fun _ h hb => ⟨h, hb⟩) ih.2.1)
    | range | rangeInclusive =>
      -- only the first field is registered; `rangesOk` says the second has the same type
      refine ((Step.ins _ _).bind ih.2.2).imp fun ho => ?_
      exact ⟨(both ho).2, fun _ h => ⟨h.1, range_fields (both ho).1 h.2⟩⟩
  case h_sum =>
    intro k vs ih
    have snoc : ∀ {n u : Name} {P : List Name}, n ∈ P ++ [u] → n ∈ u :: P := fun h =>
      (List.mem_append.mp h).elim (.tail _) fun h => List.mem_singleton.mp h ▸ .head _
    cases k with
    | option =>
      refine ((Step.ins _ _).bind (ih.1.bind (Step.ins _ _))).mono
        (fun _ h => by rwa [List.nil_append, List.append_nil] at h) (fun n h => ?_)
        fun ho => ⟨by rwa [Bool.true_and, Bool.and_true], fun _ h => h⟩
      exact (List.mem_cons.mp h).elim (· ▸ .head _) fun h => .tail _ (snoc h)
    | result =>
      exact Step.pair _ fun e t => (Step.ins _ _).bind ih.1
    | ipAddr | derived =>
      refine ((ih.2 _).bind (Step.ins _ _)).mono
        (fun _ h => by rwa [List.append_nil] at h) (fun n h => ?_)
        fun ho => ⟨by rwa [Bool.and_true], fun _ h => h⟩
      exact snoc h
    | sockAddr => exact Step.panic _

structure Post (I : List Ty) (op : List Name) (m m' : Defs) (B : Container → Prop) : Prop where
  sorted : DSorted m'
  sub : DSub (dget m) (dget m')
  bnd : ∀ r, B ⟨r, m'⟩
  pre : Pre I op m'

def Goal (I : List Ty) (its : List Ty) (add : Defs → Res Unit Defs) (B : Container → Prop) : Prop :=
  ∀ op m m', DSorted m → Pre I op m → (∀ s ∈ its, declOf s ∉ op) → add m = .ok m' → Post I op m m' B

def AddsC (I : List Ty) (t : Ty) : Prop :=
  Hyp I (items t) (plainNames t) → rangesOk t = true →
    Goal I (items t) (addDefs t) (fun c => Bnd c t)

/-- **Every `add_definitions_recursively` call leaves its type completely bound**, for a
name-coherent universe of guarded items `I`. -/
theorem adds_coh (I : List Ty)
    (h1 : ∀ d ∈ I, ∀ d' ∈ I, declOf d = declOf d' → d = d')
    (h3 : ∀ d ∈ I, ∀ s ∈ itemChildren d, declOf s ≠ declOf d) : ∀ t : Ty, AddsC I t :=
  fun t hy ho op m m' hs hp hop h =>
    have ⟨hpres, hgoal⟩ := addDefs_step I h1 h3 t
    have ⟨pre, bnd⟩ := hgoal hy ho op m m' hs hp hop h
    ⟨(hpres m m' hs h).1, (hpres m m' hs h).2, fun r => bnd ⟨r, m'⟩ (DSub.refl _), pre⟩

theorem pres_all : ∀ t : Ty, Pres (addDefs t) :=
  fun t => (addDefs_step [] (fun _ h => nomatch h) (fun _ h => nomatch h) t).pres

theorem schemaOf_ok {t : Ty} {c : Container} (h : schemaOf t = .ok c) :
    ∃ m, addDefs t [] = .ok m ∧ c = ⟨declOf t, m⟩ := by
  obtain ⟨m, h1, h2⟩ := Res.bind_eq_ok h
  exact ⟨m, h1, (Res.ok.inj h2).symm⟩

theorem guardFree_items : ∀ t : Ty, guardFree t = true → items t = [] ∧ rangesOk t = true := by
  have two {α : Type} {a b : List α} {x y : Bool} :
      a = [] ∧ x = true → b = [] ∧ y = true → a ++ b = [] ∧ (x && y) = true :=
    fun ⟨ha, hx⟩ ⟨hb, hy⟩ => by subst ha hb hx hy; exact ⟨rfl, rfl⟩
  apply Ty.induct (P := fun t => guardFree t = true → items t = [] ∧ rangesOk t = true)
    (PF := fun fs => guardFreeFields fs = true → itemsFields fs = [] ∧ rangesOkFields fs = true)
    (PV := fun vs => guardFreeVariants vs = true → itemsVariants vs = [] ∧ rangesOkVariants vs = true)
  case h_int | h_nonzero | h_float | h_str => exact fun _ _ => ⟨rfl, rfl⟩
  case h_bool | h_asciiChar | h_fnil | h_vnil => exact fun _ => ⟨rfl, rfl⟩
  case h_raw => intro k h; cases h
  case h_seq | h_set | h_array | h_wrap => intro k t ih; exact ih
  case h_custom => intro t ih; exact ih
  case h_map => intro k a b iha ihb h; exact two (iha (both h).1) (ihb (both h).2)
  case h_prod =>
    intro k fs ih h
    cases k with
    | tuple | unit | phantom | rangeFull | rangeFrom | rangeTo | rangeToInclusive => exact ih h
    | _ => cases h
  case h_sum =>
    intro k vs ih h
    cases k with
    | option | result => exact ih h
    | _ => cases h
  case h_fcons =>
    intro n s t fs iht ihf h
    exact two (iht (both h).1) (ihf (both h).2)
  case h_vcons =>
    intro n g fs vs ihf ihv h
    exact two (ihf (both h).1) (ihv (both h).2)

/-- the outcome of one `add_definitions_recursively` call where no guard is met -/
def Adds (t : Ty) : Prop :=
  ∀ m m', DSorted m → addDefs t m = .ok m' →
    DSorted m' ∧ DSub (dget m) (dget m') ∧ ∀ r, Bnd ⟨r, m'⟩ t

/-- the built-in compositions are the case without guarded items -/
theorem adds_all : ∀ t : Ty, guardFree t = true → Adds t := by
  intro t hg m m' hs h
  obtain ⟨hi, hr⟩ := guardFree_items t hg
  have := adds_coh [] (fun _ h => nomatch h) (fun _ h => nomatch h) t
    ⟨fun s hs => (by rw [hi] at hs; cases hs), fun _ _ _ h => nomatch h⟩ hr [] m m' hs
    (fun _ h => nomatch h) (fun _ _ h => nomatch h) h
  exact ⟨this.sorted, this.sub, this.bnd⟩

theorem coherentB_sound (t : Ty) (h : coherentB t = true) : Coherent t := by
  unfold coherentB at h
  simp only [Bool.and_eq_true, List.all_eq_true, Bool.or_eq_true, bne_iff_ne, ne_eq] at h
  obtain ⟨⟨⟨a, b⟩, c⟩, d⟩ := h
  refine ⟨fun x hx y hy e => ?_, fun x hx s hs => b x hx s hs, fun n hn x hx => c n hn x hx, d⟩
  cases a x hx y hy with
  | inl ne => exact absurd e ne
  | inr eq => exact Ty.beq_eq x y eq

theorem schemaOf_bnd (t : Ty) (c : Container) (hc : Coherent t) (h : schemaOf t = .ok c) :
    Bnd c t ∧ c.decl = declOf t := by
  obtain ⟨m, e1, rfl⟩ := schemaOf_ok h
  have hp : Pre (items t) [] [] := fun d _ hd => nomatch hd
  have := adds_coh (items t) hc.1 hc.2.1 t ⟨fun s hs => hs, hc.2.2.1⟩ hc.2.2.2 [] [] m
    List.Pairwise.nil hp (fun s _ hm => by cases hm) e1
  exact ⟨this.bnd _, rfl⟩

theorem Coherent.of_guardFree {t : Ty} (hg : guardFree t = true) : Coherent t := by
  obtain ⟨hi, hr⟩ := guardFree_items t hg
  unfold Coherent
  rw [hi]
  exact ⟨(fun _ h => nomatch h), (fun _ h => nomatch h), (fun _ _ _ h => nomatch h), hr⟩

end Borsh
