/-
  C14, agreement clause: an element type that is empty on the wire is zero-sized for schema
  validation, so a dynamically sized sequence of it gets the zero-sized-sequence verdict.
-/
import BorshModel.Lemmas.Bnd
import BorshModel.Lemmas.ZeroSizeSpec
namespace Borsh

theorem ZeroSized.of_rule {c : Container} {d : Name} {df : Defn} (hg : c.get d = some df) {h : Nat}
    (hr : zsRule (fun e => zsH c h e = true) df) : ZeroSized c d :=
  ⟨h + 1, (zsH_step c h d).mpr ⟨df, hg, hr⟩⟩

theorem wireZero_zeroSized (c : Container) :
    ∀ t : Ty, shapeOk t = true → wireZero t = true → Bnd c t → ZeroSized c (declOf t) := by
  apply Ty.induct_step (P := fun t => shapeOk t = true → wireZero t = true → Bnd c t → ZeroSized c (declOf t))
    (PF := fun fs => shapeOkFields fs = true → wireZeroFields fs = true → BndKept c fs →
      ∀ d ∈ keptDecls fs, ZeroSized c d) (PV := fun _ => True)
  case step =>
    intro t ih
    fun_cases wireZero t
    next n t =>
      intro hs hz hb
      rcases Bool.or_eq_true_iff.mp hz with h0 | ht
      · cases beq_iff_eq.mp h0
        exact .of_rule hb.1 (h := 0) ⟨rfl, .inl ⟨rfl, rfl⟩⟩
      · obtain ⟨h, hh⟩ := ih hs ht hb.2
        exact .of_rule hb.1 ⟨rfl, .inr hh⟩
    next k fs =>
      intro hs hz hb
      obtain ⟨hkept, hdef⟩ := bnd_prod hs hb
      -- the kept fields are derivable zero-sized at one common depth
      obtain ⟨h, hall⟩ := FromOn.all (keptDecls fs) fun d hd =>
        .of_mono (fun _ _ hk => zsH_mono c hk d) (ih (both hs).2 (both hz).2 hkept d hd)
      replace hall := hall h (Nat.le_refl h)
      rcases hdef with ⟨_, hg⟩ | hg | ⟨F, hg, hF⟩
      · exact .of_rule hg (h := 0) rfl
      · exact .of_rule hg hall
      · exact .of_rule hg fun e he => hall e (hF ▸ he)
    next k t => exact ih
    next => exact fun _ h => nomatch h
  case h_fnil => intro _ _ _ d hd; cases hd
  case h_fcons =>
    intro n sk t fs iht ihf hs hz hb d hd
    cases sk with
    | true => exact ihf (both hs).2 (both hz).2 hb.2 d hd
    | false =>
      rcases List.mem_cons.mp hd with rfl | hd
      · exact iht (both hs).1 (both hz).1 (hb.1.resolve_left Bool.false_ne_true)
      · exact ihf (both hs).2 (both hz).2 hb.2 d hd
  case h_vnil => trivial
  case h_vcons => intros; trivial

end Borsh
