/- What each trace combinator (`done`, `emit`, `fail`, `▹`, `serLen`, `serMany`) does to the status and
   to the bytes.  Statements about the bytes of `ser` go through `Tr.toSpec` (SpecRefine) instead. -/
import BorshModel.Ser
namespace Borsh

def Tr.Ok (t : Tr) : Prop := t.status = .ok ()

@[simp] theorem Tr.done_ok : Tr.done.Ok := rfl
@[simp] theorem Tr.done_bytes : Tr.done.bytes = [] := rfl
theorem done_bytes : Tr.done.bytes = [] := Tr.done_bytes
@[simp] theorem Tr.emit_ok (bs : Bytes) : (Tr.emit bs).Ok := rfl
@[simp] theorem Tr.emit_bytes (bs : Bytes) : (Tr.emit bs).bytes = bs := by simp [Tr.emit, Tr.bytes]
@[simp] theorem Tr.fail_not_ok (e : Err) : ¬ (Tr.fail e).Ok := by simp [Tr.fail, Tr.Ok]
@[simp] theorem Tr.panic_not_ok (p : PanicSite) : ¬ (Tr.panic p).Ok := by simp [Tr.panic, Tr.Ok]
@[simp] theorem illTyped_not_ok : ¬ illTyped.Ok := by simp [illTyped]

theorem Tr.andThen_ok {a b : Tr} : (a ▹ b).Ok ↔ a.Ok ∧ b.Ok := by
  unfold Tr.andThen Tr.Ok
  cases h : a.status with
  | ok u => cases u; simp
  | err e => simp [h]
  | panic p => simp [h]

theorem Tr.andThen_bytes {a b : Tr} (h : a.Ok) : (a ▹ b).bytes = a.bytes ++ b.bytes := by
  unfold Tr.andThen Tr.bytes
  unfold Tr.Ok at h
  simp [h]

theorem Tr.andThen_assoc (a b c : Tr) : a ▹ b ▹ c = a ▹ (b ▹ c) := by
  obtain ⟨ca, sa⟩ := a
  obtain ⟨cb, sb⟩ := b
  cases sa with
  | ok u => cases u; cases sb with
    | ok u => cases u; simp [Tr.andThen]
    | _ => rfl
  | _ => rfl

theorem serLen_ok {n : Nat} : (serLen n).Ok ↔ n < 2 ^ 32 := by
  unfold serLen
  split <;> simp [*]

theorem serLen_bytes {n : Nat} (h : n < 2 ^ 32) : (serLen n).bytes = u32le n := by
  unfold serLen
  simp [h]

theorem serMany_ok {f : Val → Tr} {vs : List Val} : (serMany f vs).Ok ↔ ∀ v ∈ vs, (f v).Ok := by
  induction vs with
  | nil => simp [serMany]
  | cons v vs ih => simp [serMany, Tr.andThen_ok, ih]

theorem serMany_bytes {f : Val → Tr} {vs : List Val} (h : (serMany f vs).Ok) :
    (serMany f vs).bytes = (vs.map fun v => (f v).bytes).flatten := by
  induction vs with
  | nil => simp [serMany]
  | cons v vs ih =>
    simp only [serMany] at h ⊢
    have h' := Tr.andThen_ok.mp h
    rw [Tr.andThen_bytes h'.1, ih h'.2]
    simp

theorem serMany_append_ok {f : Val → Tr} {a b : List Val} :
    (serMany f (a ++ b)).Ok ↔ (serMany f a).Ok ∧ (serMany f b).Ok := by
  simp only [serMany_ok, List.mem_append, or_imp, forall_and]

theorem serMany_append_bytes {f : Val → Tr} {a b : List Val} (h : (serMany f (a ++ b)).Ok) :
    (serMany f (a ++ b)).bytes = (serMany f a).bytes ++ (serMany f b).bytes := by
  have h' := serMany_append_ok.mp h
  rw [serMany_bytes h, serMany_bytes h'.1, serMany_bytes h'.2]
  simp

theorem Tr.andThen_congr (p : Tr) {a b : Tr} (hs : a.status = b.status) (hb : a.bytes = b.bytes) :
    (p ▹ a).status = (p ▹ b).status ∧ (p ▹ a).bytes = (p ▹ b).bytes := by
  unfold Tr.andThen
  split
  · exact ⟨hs, by simp only [Tr.bytes, List.flatten_append] at hb ⊢; rw [hb]⟩
  · exact ⟨rfl, rfl⟩

@[simp] theorem valBytes_length (vs : List Val) : (valBytes vs).length = vs.length :=
  List.length_map _

end Borsh
