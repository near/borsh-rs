/-
  The schema container as a value of the universe: `containerOfVal` inverts `containerToVal`,
  and a well-typed container value is already canonical (its `BTreeMap` is ascending).
-/
import BorshModel.SchemaCodec
import BorshModel.Lemmas.CanonId
namespace Borsh

theorem mapM_map_some {α : Type} (f : α → Val) (g : Val → Option α) (l : List α)
    (h : ∀ a ∈ l, g (f a) = some a) : (l.map f).mapM g = some l := by
  induction l with
  | nil => rfl
  | cons a l ih =>
    simp only [List.map_cons, List.mapM_cons, h a List.mem_cons_self,
      ih (fun b hb => h b (List.mem_cons_of_mem _ hb))]
    rfl

theorem namesOfVals_blobs (ns : List Name) : namesOfVals (ns.map .blob) = some ns :=
  mapM_map_some _ _ ns (fun _ _ => rfl)

theorem fieldsOfVal_toVal (f : Fields) : fieldsOfVal (fieldsToVal f) = some f := by
  cases f with
  | named fs =>
    show Option.map Fields.named (List.mapM _ (fs.map _)) = _
    rw [mapM_map_some _ _ fs (fun _ _ => rfl)]; rfl
  | unnamed fs =>
    show Option.map Fields.unnamed (namesOfVals (fs.map Val.blob)) = _
    rw [namesOfVals_blobs]; rfl
  | empty => rfl

theorem defnOfVal_toVal (d : Defn) : defnOfVal (defnToVal d) = some d := by
  cases d with
  | primitive s => exact congrArg (fun n => some (Defn.primitive n)) (Int.toNat_natCast s)
  | sequence lw lo hi e =>
    show some (Defn.sequence (lw : Int).toNat (lo : Int).toNat (hi : Int).toNat e) = _
    simp only [Int.toNat_natCast]
  | tuple es =>
    show (namesOfVals (es.map Val.blob)).map Defn.tuple = _
    rw [namesOfVals_blobs]; rfl
  | «enum» tw vs =>
    show Option.map (Defn.enum (tw : Int).toNat) (List.mapM _ (vs.map _)) = _
    rw [mapM_map_some _ _ vs (fun _ _ => rfl), Int.toNat_natCast]; rfl
  | struct f =>
    show (fieldsOfVal (fieldsToVal f)).map Defn.struct = _
    rw [fieldsOfVal_toVal]; rfl

theorem containerOfVal_toVal (c : Container) : containerOfVal (containerToVal c) = some c := by
  obtain ⟨d, defs⟩ := c
  simp only [containerToVal, containerOfVal]
  rw [mapM_map_some _ _ defs (fun e _ => by simp [defnOfVal_toVal])]
  rfl

theorem keyTy_containerTy : keyTy containerTy = true := by decide +kernel
theorem keysOk_containerTy : keysOk containerTy = true := by decide +kernel
theorem WfTy_containerTy : WfTy containerTy = true := by decide +kernel

theorem canon_container (c : Container) (h : HasTy containerTy (containerToVal c) = true) :
    canon containerTy (containerToVal c) = containerToVal c :=
  canon_id_all containerTy keyTy_containerTy _ h

end Borsh
