/-
  `Val.cmp` is a total order on representations: antisymmetric (`swap`), transitive, and `eq`
  exactly on equal values.  These are the laws of Rust's `Ord` that the sorted-set reasoning
  relies on; here they are theorems about the model of `Ord`.

  `Val.cmp` is put together from three things, and each brings its laws along: the comparison
  `cmpLt` read off `<` (integers, indices, bytes, constructor ranks), the lexicographic pair
  `Ordering.then`, and the lexicographic order `lexCmp` on lists.
-/
import BorshModel.Ord
import BorshModel.Lemmas.Induct
namespace Borsh

section cmpLt
variable {α : Type} [LT α] [DecidableLT α]

/-- `cmpNat` (Ord.lean) is `cmpLt` at `Nat` and the `.int` clause of `Val.cmp` is `cmpLt` at `Int`, by
`rfl`: used silently below (`cmpNat_gt`, `Val.cmp_variant`, the `int` and `bool` cases) -/
def cmpLt (a b : α) : Ordering := if a < b then .lt else if b < a then .gt else .eq

theorem cmpLt_lt {a b : α} : cmpLt a b = .lt ↔ a < b := by
  unfold cmpLt; split
  · simp [*]
  · split <;> simp [*]

/-- the way `cmpBytes` writes "compare the heads, then the tails" -/
theorem ite_then (a b : α) (o : Ordering) :
    (if a < b then .lt else if b < a then .gt else o) = (cmpLt a b).then o := by
  unfold cmpLt; split
  · rfl
  · split <;> rfl

theorem cmpLt_trans [Trans (α := α) (· < ·) (· < ·) (· < ·)] {a b c : α}
    (h1 : cmpLt a b = .lt) (h2 : cmpLt b c = .lt) : cmpLt a c = .lt :=
  cmpLt_lt.mpr (Trans.trans (r := (· < ·)) (s := (· < ·)) (cmpLt_lt.mp h1) (cmpLt_lt.mp h2))

variable [Std.Asymm (α := α) (· < ·)]

theorem cmpLt_gt {a b : α} : cmpLt a b = .gt ↔ b < a := by
  unfold cmpLt; split
  · simpa using Std.Asymm.asymm (r := (· < ·)) a b ‹_›
  · split <;> simp [*]

variable [Std.Trichotomous (α := α) (· < ·)]

theorem cmpLt_eq {a b : α} : cmpLt a b = .eq ↔ a = b := by
  unfold cmpLt
  refine ⟨fun h => ?_, fun h => ?_⟩
  · split at h
    · cases h
    · split at h
      · cases h
      · exact Std.Trichotomous.trichotomous (r := (· < ·)) a b ‹_› ‹_›
  · subst h
    have hirr : ¬ a < a := fun h => Std.Asymm.asymm (r := (· < ·)) a a h h
    rw [if_neg hirr, if_neg hirr]

theorem cmpLt_swap (a b : α) : cmpLt a b = (cmpLt b a).swap := by
  cases h : cmpLt b a
  · exact cmpLt_gt.mpr (cmpLt_lt.mp h)
  · exact cmpLt_eq.mpr (cmpLt_eq.mp h).symm
  · exact cmpLt_lt.mpr (cmpLt_gt.mp h)

end cmpLt

theorem cmpNat_gt {a b : Nat} : cmpNat a b = .gt ↔ b < a := cmpLt_gt

/-- the way `Val.cmp` writes `Ordering.then` -/
theorem then_def (o p : Ordering) : (match o with | .lt => .lt | .gt => .gt | .eq => p) = o.then p := by
  cases o <;> rfl

/-- `o₁ o₂ o₃` compare `a b`, `b c`, `a c` in the first component, `p₁ p₂ p₃` in the second; equal
first components are interchangeable (`he₁`, `he₂`) -/
theorem then_trans {o₁ o₂ o₃ p₁ p₂ p₃ : Ordering} (ho : o₁ = .lt → o₂ = .lt → o₃ = .lt)
    (he₁ : o₁ = .eq → o₃ = o₂) (he₂ : o₂ = .eq → o₃ = o₁) (hp : p₁ = .lt → p₂ = .lt → p₃ = .lt)
    (h1 : o₁.then p₁ = .lt) (h2 : o₂.then p₂ = .lt) : o₃.then p₃ = .lt := by
  rw [Ordering.then_eq_lt] at h1 h2 ⊢
  rcases h1 with h1 | ⟨e1, h1⟩ <;> rcases h2 with h2 | ⟨e2, h2⟩
  · exact .inl (ho h1 h2)
  · exact .inl (he₂ e2 ▸ h1)
  · exact .inl (he₁ e1 ▸ h2)
  · exact .inr ⟨he₁ e1 ▸ e2, hp h1 h2⟩

/-! The laws of the element comparison are asked for at the members of the first list only: that is
what an induction over `Val` can supply for the children of a value. -/

section lexCmp
variable {α : Type}

def lexCmp (f : α → α → Ordering) : List α → List α → Ordering
  | [], [] => .eq
  | [], _ :: _ => .lt
  | _ :: _, [] => .gt
  | a :: as, b :: bs => (f a b).then (lexCmp f as bs)

variable {f : α → α → Ordering}

theorem lexCmp_swap (as bs : List α) (h : ∀ a ∈ as, ∀ b, f a b = (f b a).swap) :
    lexCmp f as bs = (lexCmp f bs as).swap := by
  induction as, bs using lexCmp.induct with
  | case4 a as b bs ih =>
    rw [lexCmp, lexCmp, Ordering.swap_then, ← h a (.head _) b, ← ih fun x hx => h x (.tail _ hx)]
  | _ => rfl

theorem lexCmp_eq (as bs : List α) (h : ∀ a ∈ as, ∀ b, f a b = .eq ↔ a = b) :
    lexCmp f as bs = .eq ↔ as = bs := by
  induction as, bs using lexCmp.induct with
  | case1 => exact ⟨fun _ => rfl, fun _ => rfl⟩
  | case4 a as b bs ih =>
    rw [lexCmp, Ordering.then_eq_eq, h a (.head _) b, ih fun x hx => h x (.tail _ hx), List.cons.injEq]
  | _ => exact ⟨nofun, nofun⟩

theorem lexCmp_trans (feq : ∀ a b, f a b = .eq → a = b) (as bs cs : List α)
    (h : ∀ a ∈ as, ∀ b c, f a b = .lt → f b c = .lt → f a c = .lt)
    (h1 : lexCmp f as bs = .lt) (h2 : lexCmp f bs cs = .lt) : lexCmp f as cs = .lt := by
  induction as, bs using lexCmp.induct generalizing cs with
  | case2 b bs => cases cs with | nil => cases h2 | cons c cs => rfl
  | case4 a as b bs ih =>
    cases cs with
    | nil => cases h2
    | cons c cs =>
      exact then_trans (h a (.head _) b c) (fun e => by rw [feq a b e]) (fun e => by rw [feq b c e])
        (ih cs fun x hx => h x (.tail _ hx)) h1 h2
  | _ => cases h1

end lexCmp

theorem cmpBytes_lex (a b : Bytes) : cmpBytes a b = lexCmp cmpLt a b := by
  induction a, b using lexCmp.induct with
  | case4 x xs y ys ih => rw [cmpBytes, lexCmp, ih, ite_then]
  | _ => rfl

theorem cmpBytes_swap (a b : Bytes) : cmpBytes a b = (cmpBytes b a).swap := by
  rw [cmpBytes_lex, cmpBytes_lex]; exact lexCmp_swap a b fun x _ => cmpLt_swap x

theorem cmpBytes_eq (a b : Bytes) : cmpBytes a b = .eq ↔ a = b := by
  rw [cmpBytes_lex]; exact lexCmp_eq a b fun _ _ _ => cmpLt_eq

theorem cmpBytes_trans (a b c : Bytes) : cmpBytes a b = .lt → cmpBytes b c = .lt → cmpBytes a c = .lt := by
  rw [cmpBytes_lex, cmpBytes_lex, cmpBytes_lex]
  exact lexCmp_trans (fun _ _ => cmpLt_eq.mp) a b c fun _ _ _ _ => cmpLt_trans

theorem Val.cmpList_lex (as bs : List Val) : Val.cmpList as bs = lexCmp Val.cmp as bs := by
  induction as, bs using lexCmp.induct with
  | case4 a as b bs ih => rw [Val.cmpList, lexCmp, ← ih]; exact then_def _ _
  | _ => rfl

theorem Val.cmp_list (x y : List Val) : Val.cmp (.list x) (.list y) = lexCmp Val.cmp x y := by
  rw [Val.cmp, Val.cmpList_lex]

theorem Val.cmp_deque (a b c d : List Val) :
    Val.cmp (.deque a b) (.deque c d) = (lexCmp Val.cmp a c).then (lexCmp Val.cmp b d) := by
  rw [Val.cmp, ← Val.cmpList_lex, ← Val.cmpList_lex]; exact then_def _ _

theorem Val.cmp_variant (i j : Nat) (x y : List Val) :
    Val.cmp (.variant i x) (.variant j y) = (cmpLt i j).then (lexCmp Val.cmp x y) := by
  rw [Val.cmp, ← Val.cmpList_lex]; exact then_def _ _

/-- The clauses of `Val.cmp` as an induction principle.  The catch-all clause is the one reached when
the ranks differ; under one constructor the statement may be assumed for the children of the first
value. -/
theorem Val.cmp_induct {P : Val → Val → Prop}
    (rank : ∀ a b, a.rank ≠ b.rank → Val.cmp a b = cmpLt a.rank b.rank → P a b)
    (int : ∀ x y, P (.int x) (.int y)) (bool : ∀ x y, P (.bool x) (.bool y))
    (blob : ∀ x y, P (.blob x) (.blob y))
    (list : ∀ x y, (∀ v ∈ x, ∀ w, P v w) → P (.list x) (.list y))
    (deque : ∀ a a' b b', (∀ v ∈ a, ∀ w, P v w) → (∀ v ∈ a', ∀ w, P v w) →
      P (.deque a a') (.deque b b'))
    (variant : ∀ i x j y, (∀ v ∈ x, ∀ w, P v w) → P (.variant i x) (.variant j y)) :
    ∀ a b, P a b := by
  intro a
  induction a using Val.induct with
  | int x => intro b; cases b with
    | int y => exact int x y
    | _ => exact rank _ _ (Nat.ne_of_beq_eq_false rfl) rfl
  | bool x => intro b; cases b with
    | bool y => exact bool x y
    | _ => exact rank _ _ (Nat.ne_of_beq_eq_false rfl) rfl
  | blob x => intro b; cases b with
    | blob y => exact blob x y
    | _ => exact rank _ _ (Nat.ne_of_beq_eq_false rfl) rfl
  | list x ih => intro b; cases b with
    | list y => exact list x y ih
    | _ => exact rank _ _ (Nat.ne_of_beq_eq_false rfl) rfl
  | deque a a' ih ih' => intro b; cases b with
    | deque b b' => exact deque a a' b b' ih ih'
    | _ => exact rank _ _ (Nat.ne_of_beq_eq_false rfl) rfl
  | variant i x ih => intro b; cases b with
    | variant j y => exact variant i x j y ih
    | _ => exact rank _ _ (Nat.ne_of_beq_eq_false rfl) rfl

theorem cmp_of_rank_ne : ∀ {a b : Val}, a.rank ≠ b.rank → Val.cmp a b = cmpLt a.rank b.rank := by
  intro a b
  induction a, b using Val.cmp_induct with
  | rank a b _ e => exact fun _ => e
  | _ => exact fun h => absurd rfl h

theorem Val.cmp_swap : ∀ a b : Val, Val.cmp a b = (Val.cmp b a).swap := by
  apply Val.cmp_induct
  case rank => intro a b h _; rw [cmp_of_rank_ne h, cmp_of_rank_ne h.symm]; exact cmpLt_swap _ _
  case int => exact cmpLt_swap
  case bool => intro x y; exact cmpLt_swap x.toNat y.toNat
  case blob => exact cmpBytes_swap
  case list => intro x y ih; rw [Val.cmp_list, Val.cmp_list]; exact lexCmp_swap x y ih
  case deque =>
    intro a a' b b' ih ih'
    rw [Val.cmp_deque, Val.cmp_deque, Ordering.swap_then, ← lexCmp_swap a b ih, ← lexCmp_swap a' b' ih']
  case variant =>
    intro i x j y ih
    rw [Val.cmp_variant, Val.cmp_variant, Ordering.swap_then, ← lexCmp_swap x y ih, ← cmpLt_swap]

theorem Val.cmpList_swap : ∀ as bs : List Val, Val.cmpList as bs = (Val.cmpList bs as).swap := by
  intro as bs
  rw [Val.cmpList_lex, Val.cmpList_lex]; exact lexCmp_swap as bs fun a _ => Val.cmp_swap a

theorem Val.cmp_eq : ∀ a b : Val, Val.cmp a b = .eq ↔ a = b := by
  apply Val.cmp_induct
  case rank =>
    intro a b h e
    rw [e, cmpLt_eq]
    exact ⟨fun e => absurd e h, fun e => absurd (congrArg Val.rank e) h⟩
  case int => intro x y; rw [Val.int.injEq]; exact cmpLt_eq
  case bool => intro x y; rw [Val.bool.injEq]; cases x <;> cases y <;> decide
  case blob => intro x y; rw [Val.blob.injEq]; exact cmpBytes_eq x y
  case list => intro x y ih; rw [Val.cmp_list, lexCmp_eq x y ih, Val.list.injEq]
  case deque =>
    intro a a' b b' ih ih'
    rw [Val.cmp_deque, Ordering.then_eq_eq, lexCmp_eq a b ih, lexCmp_eq a' b' ih', Val.deque.injEq]
  case variant =>
    intro i x j y ih
    rw [Val.cmp_variant, Ordering.then_eq_eq, cmpLt_eq, lexCmp_eq x y ih, Val.variant.injEq]

theorem Val.cmpList_eq (as bs : List Val) : Val.cmpList as bs = .eq ↔ as = bs := by
  rw [Val.cmpList_lex]; exact lexCmp_eq as bs fun a _ => Val.cmp_eq a

theorem cmp_lt_rank {a b : Val} (h : Val.cmp a b = .lt) : a.rank ≤ b.rank := by
  by_cases hr : a.rank = b.rank
  · exact Nat.le_of_eq hr
  · rw [cmp_of_rank_ne hr] at h
    exact Nat.le_of_lt (cmpLt_lt.mp h)

/-- across constructors the order is that of the ranks -/
theorem cmp_trans_mixed {a b c : Val} (h1 : Val.cmp a b = .lt) (h2 : Val.cmp b c = .lt)
    (hne : a.rank ≠ b.rank ∨ b.rank ≠ c.rank) : Val.cmp a c = .lt := by
  have r1 := cmp_lt_rank h1
  have r2 := cmp_lt_rank h2
  have hlt : a.rank < c.rank := hne.elim (fun h => Nat.lt_of_lt_of_le (Nat.lt_of_le_of_ne r1 h) r2)
    fun h => Nat.lt_of_le_of_lt r1 (Nat.lt_of_le_of_ne r2 h)
  rw [cmp_of_rank_ne (Nat.ne_of_lt hlt)]
  exact cmpLt_lt.mpr hlt

theorem Val.cmp_trans (a b c : Val) (h1 : Val.cmp a b = .lt) (h2 : Val.cmp b c = .lt) :
    Val.cmp a c = .lt := by
  have lists (x y z : List Val) (ih : ∀ v ∈ x, ∀ w, ∀ c, Val.cmp v w = .lt → Val.cmp w c = .lt →
      Val.cmp v c = .lt) := lexCmp_trans (fun a b => (Val.cmp_eq a b).mp) x y z ih
  have eqs (x y : List Val) := (lexCmp_eq (f := Val.cmp) x y fun a _ => Val.cmp_eq a).mp
  induction a, b using Val.cmp_induct generalizing c with
  | rank a b h => exact cmp_trans_mixed h1 h2 (.inl h)
  | int x y =>
    cases c with
    | int z => exact cmpLt_trans h1 h2
    | _ => exact cmp_trans_mixed h1 h2 (.inr (Nat.ne_of_beq_eq_false rfl))
  | bool x y =>
    cases c with
    | bool z => exact cmpLt_trans (α := Nat) h1 h2
    | _ => exact cmp_trans_mixed h1 h2 (.inr (Nat.ne_of_beq_eq_false rfl))
  | blob x y =>
    cases c with
    | blob z => exact cmpBytes_trans x y z h1 h2
    | _ => exact cmp_trans_mixed h1 h2 (.inr (Nat.ne_of_beq_eq_false rfl))
  | list x y ih =>
    cases c with
    | list z => rw [Val.cmp_list] at *; exact lists x y z ih h1 h2
    | _ => exact cmp_trans_mixed h1 h2 (.inr (Nat.ne_of_beq_eq_false rfl))
  | deque a a' b b' ih ih' =>
    cases c with
    | deque c c' =>
      rw [Val.cmp_deque] at *
      exact then_trans (lists a b c ih) (fun h => by rw [eqs a b h]) (fun h => by rw [eqs b c h])
        (lists a' b' c' ih') h1 h2
    | _ => exact cmp_trans_mixed h1 h2 (.inr (Nat.ne_of_beq_eq_false rfl))
  | variant i x j y ih =>
    cases c with
    | variant k z =>
      rw [Val.cmp_variant] at *
      exact then_trans cmpLt_trans (fun h => by rw [cmpLt_eq.mp h]) (fun h => by rw [cmpLt_eq.mp h])
        (lists x y z ih) h1 h2
    | _ => exact cmp_trans_mixed h1 h2 (.inr (Nat.ne_of_beq_eq_false rfl))

theorem Val.cmpList_trans (as bs cs : List Val) (h1 : Val.cmpList as bs = .lt) (h2 : Val.cmpList bs cs = .lt) :
    Val.cmpList as cs = .lt := by
  rw [Val.cmpList_lex] at *
  exact lexCmp_trans (fun a b => (Val.cmp_eq a b).mp) as bs cs (fun a _ => Val.cmp_trans a) h1 h2

end Borsh
