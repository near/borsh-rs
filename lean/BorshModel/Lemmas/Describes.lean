/-
  C08: if every declaration a type refers to is bound as intended (`Bnd`), a reader that knows only
  the container parses every encoding of every value of the type exactly: of the specification's
  encoding (`DescE`, `describesE`), hence of what `ser` writes (`Desc`, `describes_all`).
-/
import BorshModel.Lemmas.Walk
import BorshModel.Lemmas.Bnd
import BorshModel.Lemmas.SpecRefine
import BorshModel.Lemmas.Variant
namespace Borsh

variable {c : Container} {f : Nat} {e : Name} {x : Bytes} {r : Name → Bytes → Option Bytes}

theorem Parses.concat {α : Type} {g : α → Spec.R} {p : Bytes → Option Bytes} : ∀ (ws : List α) (body : Bytes),
    (∀ w ∈ ws, ∀ x, g w = .ok x → Parses p x) → Spec.concat (ws.map g) = .ok body →
    Parses (repeatWith p ws.length) body
  | [], body, _, h => by cases h; exact .zero
  | w :: ws, body, he, h => by
    obtain ⟨x, hx, y, hy, rfl⟩ := Spec.concat_cons_ok.mp h
    exact (he w List.mem_cons_self x hx).succ
      (concat ws y (fun w' hw' => he w' (List.mem_cons_of_mem _ hw')) hy)

theorem Parses.vec {n : Nat} (hn : n < 2 ^ 32) (h : Parses (repeatWith (r e) n) x) :
    Parses (walkNode r (defaultSeq e)) (u32le n ++ x) :=
  .counted (by decide) ⟨Nat.zero_le _, Nat.le_pred_of_lt hn⟩ (Nat.lt_of_lt_of_le hn (by decide)) h

theorem Parses.sized {α : Type} {g : α → Spec.R} {ws : List α} {z : Bool} {bs : Bytes}
    (h : Spec.sized z (ws.map g) = .ok bs) (he : ∀ w ∈ ws, ∀ x, g w = .ok x → Parses (r e) x) :
    Parses (walkNode r (defaultSeq e)) bs := by
  obtain ⟨_, hlt, body, hb, rfl⟩ := Spec.sized_ok.mp h
  rw [List.length_map] at hlt ⊢
  exact .vec hlt (.concat ws body he hb)

/-- some fuel suffices, uniformly in the value, for the walker to consume exactly the encoding -/
def Desc (c : Container) (t : Ty) : Prop :=
  ∃ f, ∀ f', f ≤ f' → ∀ (v : Val) (rest : Bytes), HasTy t v = true → (ser t v).Ok →
    sdec c f' (declOf t) ((ser t v).bytes ++ rest) = some rest

/-- the same about the specification's encoding; `ser` refines it -/
def DescE (c : Container) (t : Ty) : Prop :=
  FromOn fun f => ∀ v bs, HasTy t v = true → Spec.enc t v = .ok bs → Parses (sdec c f (declOf t)) bs

theorem DescE.desc {t : Ty} : DescE c t → Desc c t := fun ⟨f, h⟩ =>
  ⟨f, fun f' hf v rest hv hok => h f' hf v _ hv ((enc_ok_iff hv).mpr ⟨hok, rfl⟩) rest⟩

def DescEF (c : Container) (fs : List Field) : Prop :=
  FromOn fun f => ∀ vs bs, HasTyFields fs vs = true → Spec.encFields fs vs = .ok bs →
    Parses (listWith (sdec c f) (keptDecls fs)) bs

theorem descE_prim {t : Ty} {n : Nat} (hg : c.get (declOf t) = some (.primitive n))
    (hl : ∀ v bs, Spec.enc t v = .ok bs → bs.length = n) : DescE c t :=
  .of_add 1 fun _ v bs _ he => .of_get hg (.prim (hl v bs he))

theorem Parses.u8s (he : c.get e = some (.primitive 1)) :
    ∀ x : Bytes, Parses (repeatWith (sdec c (f + 1) e) x.length) x
  | [] => .zero
  | b :: x => (Parses.of_get he (.prim rfl) : Parses _ [b]).succ (u8s he x)

theorem descE_str (k : StrK) (hb : Bnd c (.str k)) : DescE c (.str k) := by
  refine .of_add 2 fun _ v bs _ he => ?_
  cases v with
  | blob x =>
    obtain ⟨hlt, rfl⟩ := Spec.enc_str_ok.mp he
    obtain ⟨e, hk⟩ := bnd_str k
    exact .of_get ((hk c).mp hb).1 (.vec hlt (.u8s ((hk c).mp hb).2 x))
  | _ => cases he

theorem descE_raw (k : RawK) (hb : Bnd c (.raw k)) : DescE c (.raw k) := by
  refine .of_add 3 fun _ v bs hv he => ?_
  cases v with
  | blob x =>
    cases he
    exact .of_get hb.1 (.struct (.one (.of_get hb.2.1 (.fixed (beq_iff_eq.mp hv ▸ .u8s hb.2.2 bs)))))
  | _ => cases he

theorem descE_seq (k : SeqK) (t : Ty) (hb : Bnd c (.seq k t)) : DescE c t → DescE c (.seq k t) :=
  .shift 1 fun _ h v bs hv he => by
    -- `HasTy`: `(_ && vs.all (HasTy t)) && _` of a list, `(_ && a.all (HasTy t)) && b.all (HasTy t)` of a deque
    cases v with
    | list vs =>
      exact .of_get hb.1 (.sized he fun w hw x => h w x (List.all_eq_true.mp (both (both hv).1).2 w hw))
    | deque a b =>
      refine .of_get hb.1 (.sized he fun w hw x => h w x ?_)
      cases List.mem_append.mp hw with
      | inl hw => exact List.all_eq_true.mp (both (both hv).1).2 w hw
      | inr hw => exact List.all_eq_true.mp (both hv).2 w hw
    | _ => cases he

theorem descE_set (k : SetK) (t : Ty) (hb : Bnd c (.set k t)) : DescE c t → DescE c (.set k t) :=
  .shift 1 fun _ h v bs hv he => by
    cases v with
    | list vs =>
      exact .of_get hb.1 (.sized he fun w hw x =>
        h w x (List.all_eq_true.mp (both hv).1 w ((written_set_perm k vs).subset hw)))
    | _ => cases he

theorem descE_map (k : MapK) (a b : Ty) (hb : Bnd c (.map k a b)) :
    DescE c a → DescE c b → DescE c (.map k a b) := fun ha hb' =>
  (ha.and hb').shift 2 fun _ ⟨ha, hb'⟩ v bs hv he => by
    cases v with
    | list es =>
      refine .of_get hb.1 (.sized he fun w hw x hx => ?_)
      obtain ⟨p, q, rfl, hp', hq'⟩ :=
        entry_pair (List.all_eq_true.mp (both hv).1 w ((written_map_perm k es).subset hw))
      obtain ⟨xp, hp, xq, hq, rfl⟩ := Spec.append_ok.mp hx
      exact .of_get hb.2.1 (.tuple ((ha p xp hp' hp).cons (.one (hb' q xq hq' hq))))
    | _ => cases he

theorem descE_array (n : Nat) (t : Ty) (hb : Bnd c (.array n t)) : DescE c t → DescE c (.array n t) :=
  .shift 1 fun _ h v bs hv he => by
    cases v with
    | list vs =>
      exact .of_get hb.1 (.fixed (beq_iff_eq.mp (both hv).1 ▸
        .concat vs bs (fun w hw x => h w x (List.all_eq_true.mp (both hv).2 w hw)) he))
    | _ => cases he

theorem descEF_nil : DescEF c [] := .of_add 0 fun _ vs bs hv he => by
  cases vs with
  | nil => cases he; exact .nil
  | cons v vs => cases he

theorem descEF_cons (n : Option Name) (sk : Bool) (t : Ty) (fs : List Field)
    (ht : sk = false → DescE c t) (hf : DescEF c fs) : DescEF c ((n, sk, t) :: fs) := by
  cases sk with
  | true =>
    refine hf.imp fun _ hf vs bs hv he => ?_
    cases vs with
    | nil => cases he
    | cons v vs => exact hf vs bs (both hv).2 he
  | false =>
    refine ((ht rfl).and hf).imp fun _ ⟨ht, hf⟩ vs bs hv he => ?_
    cases vs with
    | nil => cases he
    | cons v vs =>
      obtain ⟨a, ha, b, hb, rfl⟩ := Spec.append_ok.mp he
      exact (ht v a (both hv).1 ha).cons (hf vs b (both hv).2 hb)

theorem descE_prod (k : ProdK) (fs : List Field) (hs : shapeOk (.prod k fs) = true)
    (hb : Bnd c (.prod k fs)) : DescEF c fs → DescE c (.prod k fs) :=
  .shift 1 fun _ h v bs hv he => by
    cases v with
    | list vs =>
      have hr := h vs bs hv he
      rcases (bnd_prod hs hb).2 with ⟨rfl, hg⟩ | hg | ⟨F, hg, hF⟩
      · exact .of_get hg (.prim (by rw [hr.nil_inv]; rfl))
      · exact .of_get hg (.tuple hr)
      · exact .of_get hg (.struct (hF ▸ hr))
    | _ => cases he

/-- a sum is an `enum` with a one-byte tag; each variant's entry names a declaration that reads the
variant's fields -/
theorem descE_sum {k : SumK} {vs : List Variant} {es : List (Int × Name × Name)}
    (hg : c.get (declOf (.sum k vs)) = some (.enum 1 es))
    (hes : ∀ w ∈ vs, ∃ e, es.find? (fun e => e.1 == ((UInt8.ofNat w.2.1).toNat : Int)) = some e ∧
      ∀ f x, Parses (listWith (sdec c f) (keptDecls w.2.2)) x → Parses (sdec c (f + 1) e.2.2) x)
    (hf : ∀ w ∈ vs, DescEF c w.2.2) : DescE c (.sum k vs) := by
  refine (FromOn.all vs hf).shift 2 fun f h v bs hv he => ?_
  cases v with
  | variant idx fvs =>
    obtain ⟨w, hx, hty, b, hb, rfl⟩ := encVariant_ok hv he
    have hw := List.mem_of_getElem? hx
    obtain ⟨e, hfind, hread⟩ := hes w hw
    exact .of_get hg (.enum1 hfind (hread f b (h w hw fvs b hty hb)))
  | _ => cases he

/-- derived enums (and `IpAddr`): each variant has its own inner struct; distinct tags make the tag
find its own entry -/
theorem descE_sum_derived (k : SumK) (vs : List Variant) (hnd : (variantTags vs).Nodup)
    (hb : BndInner c (declOf (.sum k vs)) vs ∧ c.get (declOf (.sum k vs)) =
      some (.enum 1 (vs.map fun v => (((UInt8.ofNat v.2.1).toNat : Int), v.1, declOf (.sum k vs) ++ v.1)))) :
    (∀ w ∈ vs, DescEF c w.2.2) → DescE c (.sum k vs) :=
  descE_sum hb.2 fun w hw =>
    let G : Variant → Int × Name × Name :=
      fun v => (((UInt8.ofNat v.2.1).toNat : Int), v.1, declOf (.sum k vs) ++ v.1)
    have hfind : vs.find? (fun v => (G v).1 == ((UInt8.ofNat w.2.1).toNat : Int)) = some w :=
      find_of_nodup (fun v : Variant => UInt8.ofNat v.2.1)
        (p := fun v => (G v).1 == ((UInt8.ofNat w.2.1).toNat : Int)) (beq_self_eq_true _)
        (fun _ h => UInt8.toNat_inj.mp (Int.ofNat_inj.mp (eq_of_beq h))) vs hnd hw
    ⟨G w, List.find?_map.trans (congrArg (Option.map G) hfind),
      fun _ _ h => .of_get (bndInner_iff.mp hb.1 w hw).1 (.struct (schemaFields_decls _ ▸ h))⟩

/-- `Option<T>`: `None` is the unit, `Some` the payload itself -/
theorem descE_option {vs : List Variant} (hs : shapeOk (.sum .option vs) = true)
    (hb : Bnd c (.sum .option vs)) : (∀ w ∈ vs, DescEF c w.2.2) → DescE c (.sum .option vs) := by
  have h1 := (both hs).1
  dsimp only at h1
  split at h1
  · refine descE_sum hb.1 fun w hw => ?_
    rcases List.mem_cons.mp hw with rfl | hw
    · exact ⟨_, rfl, fun _ _ h => .of_get hb.2.2 (.prim (by rw [h.nil_inv]; rfl))⟩
    · cases List.mem_singleton.mp hw
      exact ⟨_, rfl, fun _ _ h => h.single.mono (Nat.le_succ _)⟩
  · cases h1

/-- `Result<T, E>`: either payload itself -/
theorem descE_result {vs : List Variant} (hs : shapeOk (.sum .result vs) = true)
    (hb : Bnd c (.sum .result vs)) : (∀ w ∈ vs, DescEF c w.2.2) → DescE c (.sum .result vs) := by
  have h1 := (both hs).1
  dsimp only at h1
  split at h1
  · refine descE_sum hb.1 fun w hw => ?_
    rcases List.mem_cons.mp hw with rfl | hw
    · exact ⟨_, rfl, fun _ _ h => h.single.mono (Nat.le_succ _)⟩
    · cases List.mem_singleton.mp hw
      exact ⟨_, rfl, fun _ _ h => h.single.mono (Nat.le_succ _)⟩
  · cases h1

theorem describesE (c : Container) :
    ∀ t : Ty, shapeOk t = true → WfTy t = true → Bnd c t → DescE c t := by
  apply Ty.induct' (P := fun t => shapeOk t = true → WfTy t = true → Bnd c t → DescE c t)
    (PF := fun fs => shapeOkFields fs = true → WfFields fs = true → BndKept c fs → DescEF c fs)
  -- leaves: a primitive of the width of the encoding; values of another shape have no encoding
  case h_int | h_nonzero =>
    intro k _ _ hb
    exact descE_prim hb fun v bs he => by
      cases v with
      | int i => cases he; exact leBytes_length _ _
      | _ => cases he
  case h_float =>
    intro k _ _ hb
    exact descE_prim hb fun v bs he => by
      cases v with
      | int b =>
        rw [Spec.enc] at he
        by_cases hn : isNanBits k b.toNat = true
        · rw [if_pos hn] at he; cases he
        · rw [if_neg hn] at he; cases he; exact leBytes_length _ _
      | _ => cases he
  case h_bool =>
    intro _ _ hb
    exact descE_prim hb fun v bs he => by
      cases v with
      | bool b => cases he; rfl
      | _ => cases he
  case h_asciiChar =>
    intro _ _ hb
    exact descE_prim hb fun v bs he => by
      cases v with
      | int i => cases he; rfl
      | _ => cases he
  case h_custom =>
    intro t _ _ hw hb
    cases isU32_eq hw
    exact descE_prim hb fun v bs he => by
      cases v with
      | int i => cases he; exact (List.length_reverse ..).trans (leBytes_length _ _)
      | _ => cases he
  case h_str => intro k _ _ hb; exact descE_str k hb
  case h_raw => intro k _ _ hb; exact descE_raw k hb
  case h_seq =>
    intro k t ih hs hw hb
    -- `WfTy (.seq k t)` is `(WfTy t && _) && _`
    exact descE_seq k t hb (ih hs (both (both hw).1).1 hb.2)
  case h_set => intro k t ih hs hw hb; exact descE_set k t hb (ih hs hw hb.2)
  case h_map =>
    intro k a b iha ihb hs hw hb
    exact descE_map k a b hb (iha (both hs).1 (both hw).1 hb.2.2.1)
      (ihb (both hs).2 (both hw).2 hb.2.2.2)
  case h_array => intro n t ih hs hw hb; exact descE_array n t hb (ih hs hw hb.2)
  case h_wrap => intro k t ih hs hw hb; exact ih hs hw hb
  case h_prod =>
    intro k fs ih hs hw hb
    exact descE_prod k fs hs hb (ih (both hs).2 hw (bnd_prod hs hb).1)
  case h_sum =>
    intro k vs ih hs hw hb
    have hwv := both hw
    have hf : (∀ w ∈ vs, BndKept c w.2.2) → ∀ w ∈ vs, DescEF c w.2.2 := fun hk w hm =>
      ih w hm (variants_mem (PV := shapeOkVariants) (fun _ _ _ _ => rfl) (both hs).2 w hm)
        (WfVariants_mem hwv.1 w hm) (hk w hm)
    cases k with
    | option => exact descE_option hs hb (hf (bndVariants_kept c _ hb.2.1))
    | result => exact descE_result hs hb (hf (bndVariants_kept c _ hb.2))
    | ipAddr | derived =>
      exact descE_sum_derived _ vs (of_decide_eq_true hwv.2) hb
        (hf fun v hv => (bndInner_iff.mp hb.1 v hv).2)
    | sockAddr => cases (both hs).1
  case h_fnil => intro _ _ _; exact descEF_nil
  case h_fcons =>
    intro n sk t fs iht ihf hs hw hb
    refine descEF_cons n sk t fs (fun hsk => iht ?_ (both hw).1 ?_)
      (ihf (both hs).2 (both hw).2 hb.2)
    · subst hsk; exact (both hs).1
    · subst hsk; exact hb.1.resolve_left Bool.false_ne_true

theorem describes_all (c : Container) :
    ∀ t : Ty, shapeOk t = true → WfTy t = true → Bnd c t → Desc c t :=
  fun t hs hw hb => (describesE c t hs hw hb).desc

end Borsh
