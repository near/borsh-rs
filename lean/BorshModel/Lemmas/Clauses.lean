/- The entries of a map.  `HasTy` and `Spec.enc` take them apart by a `match` written in place (the
   serializer, the decoder and `canon` have `serEntry`, `deEntry`, `canonEntry`).  `encEntry` names the
   one of `Spec.enc`; an entry that passes the one of `HasTy` is a pair, on which all five compute. -/
import BorshModel.Ser
import BorshModel.Spec
namespace Borsh

def encEntry (ek ev : Val → Spec.R) : Val → Spec.R
  | .list [a, b] => do let x ← ek a; let y ← ev b; pure (x ++ y)
  | _ => .error .illTyped

theorem enc_map (k : MapK) (kt vt : Ty) (es : List Val) :
    Spec.enc (.map k kt vt) (.list es) =
      Spec.sized (memZero kt) ((match k with
        | .hashMap => sortByKey entryKey es
        | _ => es).map (encEntry (Spec.enc kt) (Spec.enc vt))) := rfl

theorem entry_pair {p q : Val → Bool} {e : Val}
    (h : (match e with
      | .list [a, b] => p a && q b
      | _ => false) = true) : ∃ a b, e = .list [a, b] ∧ p a = true ∧ q b = true := by
  split at h
  · exact ⟨_, _, rfl, Bool.and_eq_true_iff.mp h⟩
  · cases h

end Borsh
