/-
  Induction principles for the nested inductive types `Ty` and `Val` (the `induction` tactic does
  not handle nested inductives).  For `Ty`: motives for types, field lists and variant lists
  (`Ty.induct'`: none for variant lists); the same with the case analysis left to the caller
  (`Ty.induct_step`).  For `Val`: the children of a value are reached as members of its lists.
  After them `isU8_eq`, `isU32_eq` (a type that passes the test is that type) and `both`, by which
  the Boolean checks over the universe are taken apart.
-/
import BorshModel.Ty
namespace Borsh
set_option linter.unusedSectionVars false

section
variable {P : Ty → Prop} {PF : List Field → Prop} {PV : List Variant → Prop}
variable (h_int : ∀ k, P (.int k)) (h_nonzero : ∀ k, P (.nonzero k)) (h_float : ∀ k, P (.float k))
  (h_bool : P .bool) (h_str : ∀ k, P (.str k)) (h_asciiChar : P .asciiChar) (h_raw : ∀ k, P (.raw k))
  (h_seq : ∀ k t, P t → P (.seq k t)) (h_set : ∀ k t, P t → P (.set k t))
  (h_map : ∀ k a b, P a → P b → P (.map k a b)) (h_array : ∀ n t, P t → P (.array n t))
  (h_prod : ∀ k fs, PF fs → P (.prod k fs)) (h_sum : ∀ k vs, PV vs → P (.sum k vs))
  (h_wrap : ∀ k t, P t → P (.wrap k t)) (h_custom : ∀ t, P t → P (.custom t))
  (h_fnil : PF []) (h_fcons : ∀ n s t fs, P t → PF fs → PF ((n, s, t) :: fs))
  (h_vnil : PV []) (h_vcons : ∀ n g fs vs, PF fs → PV vs → PV ((n, g, fs) :: vs))

include h_int h_nonzero h_float h_bool h_str h_asciiChar h_raw h_seq h_set h_map h_array h_prod h_sum
  h_wrap h_custom h_fnil h_fcons h_vnil h_vcons

mutual
theorem Ty.induct : ∀ t, P t
  | .int k => h_int k
  | .nonzero k => h_nonzero k
  | .float k => h_float k
  | .bool => h_bool
  | .str k => h_str k
  | .asciiChar => h_asciiChar
  | .raw k => h_raw k
  | .seq k t => h_seq k t (Ty.induct t)
  | .set k t => h_set k t (Ty.induct t)
  | .map k a b => h_map k a b (Ty.induct a) (Ty.induct b)
  | .array n t => h_array n t (Ty.induct t)
  | .prod k fs => h_prod k fs (Ty.inductFields fs)
  | .sum k vs => h_sum k vs (Ty.inductVariants vs)
  | .wrap k t => h_wrap k t (Ty.induct t)
  | .custom t => h_custom t (Ty.induct t)
theorem Ty.inductFields : ∀ fs, PF fs
  | [] => h_fnil
  | (n, s, t) :: fs => h_fcons n s t fs (Ty.induct t) (Ty.inductFields fs)
theorem Ty.inductVariants : ∀ vs, PV vs
  | [] => h_vnil
  | (n, g, fs) :: vs => h_vcons n g fs vs (Ty.inductFields fs) (Ty.inductVariants vs)
end

omit h_sum h_vnil h_vcons in
theorem Ty.induct' (h_sum : ∀ k (vs : List Variant), (∀ x ∈ vs, PF x.2.2) → P (.sum k vs)) : ∀ t, P t :=
  Ty.induct (PV := fun vs => ∀ x ∈ vs, PF x.2.2) h_int h_nonzero h_float h_bool h_str
    h_asciiChar h_raw h_seq h_set h_map h_array h_prod h_sum h_wrap h_custom h_fnil h_fcons
    (fun _ h => nomatch h)
    (fun _ _ _ _ hf hv => List.forall_mem_cons.mpr ⟨hf, hv⟩)
end

/-- the induction hypotheses of `Ty.induct` at a type, whatever its constructor -/
def Ty.Below (P : Ty → Prop) (PF : List Field → Prop) (PV : List Variant → Prop) : Ty → Prop
  | .seq _ t | .set _ t | .array _ t | .wrap _ t | .custom t => P t
  | .map _ a b => P a ∧ P b
  | .prod _ fs => PF fs
  | .sum _ vs => PV vs
  | _ => True

/-- `Ty.induct` with the case analysis on the type left to the caller: a proof about a function
on types can follow that function's clauses (`fun_cases`) instead of the constructors of `Ty`.
A trap: `fun_cases F` and `split` generate auxiliary declarations named after `F` in the module that
runs them; two modules neither of which imports the other must not both do so for the same `F`, or
they cannot be imported together ("environment already contains …").  Hence `Lemmas/Logical` stands
above `Lemmas/SpecRefine` (both follow `HasTy`), from which it uses nothing. -/
theorem Ty.induct_step {P : Ty → Prop} {PF : List Field → Prop} {PV : List Variant → Prop}
    (step : ∀ t, Ty.Below P PF PV t → P t)
    (h_fnil : PF []) (h_fcons : ∀ n s t fs, P t → PF fs → PF ((n, s, t) :: fs))
    (h_vnil : PV []) (h_vcons : ∀ n g fs vs, PF fs → PV vs → PV ((n, g, fs) :: vs)) : ∀ t, P t :=
  Ty.induct (fun _ => step _ trivial) (fun _ => step _ trivial) (fun _ => step _ trivial)
    (step _ trivial) (fun _ => step _ trivial) (step _ trivial) (fun _ => step _ trivial)
    (fun _ _ h => step _ h) (fun _ _ h => step _ h) (fun _ _ _ ha hb => step _ ⟨ha, hb⟩)
    (fun _ _ h => step _ h) (fun _ _ h => step _ h) (fun _ _ h => step _ h) (fun _ _ h => step _ h)
    (fun _ h => step _ h) h_fnil h_fcons h_vnil h_vcons

section
variable {P : Val → Prop} (int : ∀ i, P (.int i)) (bool : ∀ b, P (.bool b)) (blob : ∀ bs, P (.blob bs))
  (list : ∀ vs, (∀ v ∈ vs, P v) → P (.list vs))
  (deque : ∀ a b, (∀ v ∈ a, P v) → (∀ v ∈ b, P v) → P (.deque a b))
  (variant : ∀ i vs, (∀ v ∈ vs, P v) → P (.variant i vs))

include int bool blob list deque variant

mutual
theorem Val.induct : ∀ v, P v
  | .int i => int i
  | .bool b => bool b
  | .blob bs => blob bs
  | .list vs => list vs (Val.induct_mem vs)
  | .deque a b => deque a b (Val.induct_mem a) (Val.induct_mem b)
  | .variant i vs => variant i vs (Val.induct_mem vs)
theorem Val.induct_mem : ∀ vs : List Val, ∀ v ∈ vs, P v
  | v :: _, _, .head _ => Val.induct v
  | _ :: vs, v, .tail _ h => Val.induct_mem vs v h
end
end

theorem isU8_eq {t : Ty} (h : t.isU8 = true) : t = .int .u8 := by
  unfold Ty.isU8 at h
  split at h
  · rfl
  · cases h

theorem isU32_eq {t : Ty} (h : t.isU32 = true) : t = .int .u32 := by
  unfold Ty.isU32 at h
  split at h
  · rfl
  · cases h

theorem both {a b : Bool} (h : (a && b) = true) : a = true ∧ b = true := Bool.and_eq_true_iff.mp h

end Borsh
