/-
  Sorting and collecting under the total order `Val.cmp`:
  * the insertion sort of pairwise-distinct keys is strictly ascending (what `de_strict_order` checks),
  * collecting a strictly ascending list into an ordered set / map gives that list back,
  * collecting pairwise-distinct elements into an index set / map gives the list back,
  * a strictly ascending list is determined by its members (`sa_unique`), so the sort does not depend
    on the order in which distinct keys are presented (`sortByKey_perm_invariant`).
-/
import BorshModel.Lemmas.OrdLaws
import BorshModel.Lemmas.Sort
import BorshModel.Typing
namespace Borsh

variable (key : Val → Val)

theorem keyLt_iff {a b : Val} : keyLt key a b = true ↔ Val.cmp (key a) (key b) = .lt := beq_iff_eq

theorem cmp_ne_eq_symm {a b : Val} (h : Val.cmp a b ≠ .eq) : Val.cmp b a ≠ .eq := by
  rw [Val.cmp_swap]; exact fun e => h (Ordering.swap_inj.mp e)

/-- totality: not less and not equal means greater -/
theorem keyLt_of_not {a b : Val} (h1 : keyLt key a b = false) (h2 : Val.cmp (key a) (key b) ≠ .eq) :
    Val.cmp (key b) (key a) = .lt := by
  rw [Val.cmp_swap, Ordering.swap_eq_lt]
  cases h : Val.cmp (key a) (key b)
  · rw [keyLt, h] at h1; cases h1
  · exact absurd h h2
  · rfl

theorem sa_cons_cons (a b : Val) (l : List Val) :
    strictlyAscending key (a :: b :: l) = (keyLt key a b && strictlyAscending key (b :: l)) := rfl

/-- the adjacent pairs of the `windows(2)` check stand for all pairs (transitivity) -/
theorem sa_iff_pairwise : ∀ l : List Val, strictlyAscending key l = true ↔
    l.Pairwise fun a b => Val.cmp (key a) (key b) = .lt
  | [] => ⟨fun _ => .nil, fun _ => rfl⟩
  | [_] => ⟨fun _ => .cons nofun .nil, fun _ => rfl⟩
  | a :: b :: l => by
    rw [sa_cons_cons, Bool.and_eq_true, keyLt_iff, sa_iff_pairwise (b :: l), List.pairwise_cons (a := a)]
    refine ⟨fun ⟨hab, hl⟩ => ⟨fun y hy => ?_, hl⟩, fun ⟨ha, hl⟩ => ⟨ha b (.head _), hl⟩⟩
    rcases List.mem_cons.mp hy with rfl | hy
    · exact hab
    · exact Val.cmp_trans _ _ _ hab (List.rel_of_pairwise_cons hl hy)

theorem sa_tail {a : Val} {l : List Val} (h : strictlyAscending key (a :: l) = true) :
    strictlyAscending key l = true :=
  (sa_iff_pairwise key l).mpr ((sa_iff_pairwise key _).mp h).tail

theorem distinctKeys_cons (x : Val) (xs : List Val) :
    distinctKeys key (x :: xs) = true ↔
      (∀ y ∈ xs, Val.cmp (key x) (key y) ≠ .eq) ∧ distinctKeys key xs = true := by
  simp [distinctKeys]

theorem distinct_iff_pairwise : ∀ l : List Val, distinctKeys key l = true ↔
    l.Pairwise fun a b => Val.cmp (key a) (key b) ≠ .eq
  | [] => ⟨fun _ => .nil, fun _ => rfl⟩
  | a :: l => by rw [distinctKeys_cons, distinct_iff_pairwise l, List.pairwise_cons]

theorem insertSorted_pairwise (x : Val) (l : List Val)
    (hl : l.Pairwise fun a b => Val.cmp (key a) (key b) = .lt)
    (hx : ∀ y ∈ l, Val.cmp (key x) (key y) ≠ .eq) :
    (insertSorted key x l).Pairwise fun a b => Val.cmp (key a) (key b) = .lt := by
  induction l with
  | nil => exact .cons nofun .nil
  | cons y ys ih =>
    rw [List.pairwise_cons] at hl
    rw [insertSorted]
    split
    · rename_i hxy
      rw [keyLt_iff] at hxy
      refine .cons (fun z hz => ?_) (.cons hl.1 hl.2)
      rcases List.mem_cons.mp hz with rfl | hz
      · exact hxy
      · exact Val.cmp_trans _ _ _ hxy (hl.1 z hz)
    · rename_i hxy
      refine .cons (fun z hz => ?_) (ih hl.2 fun z hz => hx z (.tail _ hz))
      rcases List.mem_cons.mp ((perm_insertSorted key x ys).mem_iff.mp hz) with rfl | hz
      · exact keyLt_of_not key (Bool.eq_false_iff.mpr hxy) (hx y (.head _))
      · exact hl.1 z hz

theorem sortByKey_sa (vs : List Val) (hd : distinctKeys key vs = true) :
    strictlyAscending key (sortByKey key vs) = true := by
  rw [sa_iff_pairwise]
  induction vs with
  | nil => exact .nil
  | cons x xs ih =>
    obtain ⟨h1, h2⟩ := (distinctKeys_cons key x xs).mp hd
    exact insertSorted_pairwise key x _ (ih h2) fun y hy => h1 y ((mem_sortByKey key y xs).mp hy)

theorem sortByKey_of_sa (vs : List Val) (h : strictlyAscending key vs = true) : sortByKey key vs = vs := by
  induction vs with
  | nil => rfl
  | cons x xs ih =>
    simp only [sortByKey, List.foldr_cons] at ih ⊢
    rw [ih (sa_tail key h)]
    cases xs with
    | nil => rfl
    | cons y ys =>
      rw [sa_cons_cons] at h
      simp [insertSorted, (Bool.and_eq_true_iff.mp h).1]

end Borsh

namespace Borsh  -- reopened to shed `variable (key)`

/-- if an insertion walks past every element that is `R`-before the new one, folding it over an
`R`-chain rebuilds the chain -/
theorem foldl_insert_append {ins : Val → List Val → List Val} {R : Val → Val → Prop}
    (hnil : ∀ x, ins x [] = [x]) (hcons : ∀ x y ys, R y x → ins x (y :: ys) = y :: ins x ys)
    (l acc : List Val) (hl : l.Pairwise R) (hacc : ∀ y ∈ acc, ∀ z ∈ l, R y z) :
    l.foldl (fun a x => ins x a) acc = acc ++ l := by
  have hins (x : Val) (acc : List Val) (h : ∀ y ∈ acc, R y x) : ins x acc = acc ++ [x] := by
    induction acc with
    | nil => exact hnil x
    | cons y ys ih =>
      rw [hcons x y ys (h y (.head _)), ih fun z hz => h z (.tail _ hz), List.cons_append]
  induction l generalizing acc with
  | nil => exact (List.append_nil acc).symm
  | cons x xs ih =>
    rw [List.pairwise_cons] at hl
    rw [List.foldl_cons, hins x acc fun y hy => hacc y hy x (List.mem_cons_self ..), ih _ hl.2,
      List.append_assoc]
    · rfl
    · intro y hy z hz
      rcases List.mem_append.mp hy with h | h
      · exact hacc y h z (List.mem_cons_of_mem _ hz)
      · cases List.mem_singleton.mp h; exact hl.1 z hz

theorem collectSet_of_sa (l : List Val) (h : strictlyAscending id l = true) : collectSet l = l :=
  foldl_insert_append (ins := insertSet) (R := fun a b => Val.cmp a b = .lt) (fun _ => rfl)
    (fun x y ys h => by rw [insertSet, Val.cmp_swap, h]; rfl) l []
    ((sa_iff_pairwise id l).mp h) (fun _ h => nomatch h)

theorem collectMap_of_sa (l : List Val) (h : strictlyAscending entryKey l = true) :
    collectMap l = l :=
  foldl_insert_append (ins := insertMap) (R := fun a b => Val.cmp (entryKey a) (entryKey b) = .lt)
    (fun _ => rfl)
    (fun e y ys h => by rw [insertMap, Val.cmp_swap, h]; rfl) l []
    ((sa_iff_pairwise entryKey l).mp h) (fun _ h => nomatch h)

theorem collectIndexSet_of_distinct (l : List Val) (h : distinctKeys id l = true) :
    collectIndexSet l = l :=
  foldl_insert_append (ins := insertIndexSet) (R := fun a b => Val.cmp a b ≠ .eq) (fun _ => rfl)
    (fun x y ys h => by rw [insertIndexSet, if_neg (by rw [beq_iff_eq]; exact cmp_ne_eq_symm h)]) l []
    ((distinct_iff_pairwise id l).mp h) (fun _ h => nomatch h)

theorem collectIndexMap_of_distinct (l : List Val) (h : distinctKeys entryKey l = true) :
    collectIndexMap l = l :=
  foldl_insert_append (ins := insertIndexMap) (R := fun a b => Val.cmp (entryKey a) (entryKey b) ≠ .eq)
    (fun _ => rfl)
    (fun e y ys h => by rw [insertIndexMap, if_neg (by rw [beq_iff_eq]; exact cmp_ne_eq_symm h)]) l []
    ((distinct_iff_pairwise entryKey l).mp h) (fun _ h => nomatch h)

theorem sa_unique (key : Val → Val) : ∀ l1 l2 : List Val,
    strictlyAscending key l1 = true → strictlyAscending key l2 = true →
    (∀ x, x ∈ l1 ↔ x ∈ l2) → l1 = l2 := by
  intro l1 l2 h1 h2 hm
  rw [sa_iff_pairwise] at h1 h2
  have irrefl {a b : Val} (h : Val.cmp (key a) (key b) = .lt) : a ≠ b := by
    rintro rfl; rw [(Val.cmp_eq _ _).mpr rfl] at h; cases h
  have asymm (a b : Val) (h : Val.cmp (key a) (key b) = .lt) (h' : Val.cmp (key b) (key a) = .lt) :
      a = b := by
    rw [Val.cmp_swap, h] at h'; cases h'
  exact ((List.perm_ext_iff_of_nodup (h1.imp irrefl) (h2.imp irrefl)).mpr hm).eq_of_pairwise
    (fun a b _ _ => asymm a b) h1 h2

/-- **the sort is independent of the order in which distinct keys are presented** (hash
iteration order, insertion history, hasher state) -/
theorem sortByKey_perm_invariant (key : Val → Val) (vs ws : List Val)
    (hd1 : distinctKeys key vs = true) (hd2 : distinctKeys key ws = true)
    (hm : ∀ x, x ∈ vs ↔ x ∈ ws) : sortByKey key vs = sortByKey key ws := by
  apply sa_unique key _ _ (sortByKey_sa key vs hd1) (sortByKey_sa key ws hd2)
  intro x
  rw [mem_sortByKey, mem_sortByKey]; exact hm x

end Borsh
