/-
  The whole-input entry point `from_slice` in terms of `deserialize`; what the three general facts
  about the slice decoder (it never looks ahead, its errors other than "too short" are stable, it
  never panics) say together about a truncated input; the refusal of collections of zero-sized
  elements, which C14 states for any reader and C16 for `from_slice`, and of an unknown tag byte.
-/
import BorshModel.Lemmas.Ext
import BorshModel.Lemmas.Safe
import BorshModel.Lemmas.Variant
namespace Borsh

variable {st : Bool} {t : Ty} {bs : Bytes} {v : Val}

theorem fromSlice_eq_ok_iff : fromSlice st t bs = .ok v ↔ deserialize st t bs = .ok (v, []) := by
  unfold fromSlice
  cases deserialize st t bs with
  | ok r => obtain ⟨w, _ | _⟩ := r <;> simp
  | err e => simp
  | panic p => simp

theorem fromSlice_of_err {e : Err} (h : deserialize st t bs = .err e) : fromSlice st t bs = .err e := by
  rw [fromSlice, h]; rfl

theorem fromSlice_of_rest {r : Bytes} (h : deserialize st t bs = .ok (v, r)) (hr : r ≠ []) :
    fromSlice st t bs = .err eNotAllBytesRead := by
  rw [fromSlice, h]
  cases r with
  | nil => exact absurd rfl hr
  | cons => rfl

/-- **No proper prefix of an input that was consumed to its end is accepted, and the refusal is the
unexpected-length one** — for every type.  Acceptance would persist on the longer input and leave
`q` over; so would any other error; and the decoder does not panic. -/
theorem prefix_rejected {p q : Bytes} (h : deserialize st t (p ++ q) = .ok (v, [])) (hq : q ≠ []) :
    deserialize st t p = .err eUnexpectedLength := by
  cases hd : deserialize st t p with
  | ok r =>
    have h' : deserialize st t (p ++ q) = _ := de_ext_all t st p r.1 r.2 q hd
    rw [h] at h'
    injection h' with h'
    exact absurd (List.append_eq_nil_iff.mp (congrArg Prod.snd h').symm).2 hq
  | err e =>
    by_cases he : e = eUnexpectedLength
    · rw [he]
    · have h' : deserialize st t (p ++ q) = _ := de_errext_all t st p e q hd he
      rw [h] at h'; cases h'
  | panic s => exact absurd (hd ▸ de_safe_all t st p : (Out.panic s : Out (Val × Bytes)).safe) id


theorem de_seq_zst {σ : Type} (rd : Rd σ) (st : Bool) {k : SeqK} {t : Ty} (s : σ)
    (hk : k ≠ .bytesMut) (hz : memZero t = true) : de rd st (.seq k t) s = .err eZst := by
  rw [de, if_pos hz]
  exact hk

theorem de_set_zst {σ : Type} (rd : Rd σ) (st : Bool) (k : SetK) {t : Ty} (s : σ)
    (hz : memZero t = true) : de rd st (.set k t) s = .err eZst := by
  rw [de, if_pos hz]

theorem de_map_zst {σ : Type} (rd : Rd σ) (st : Bool) (k : MapK) {kt : Ty} (vt : Ty) (s : σ)
    (hz : memZero kt = true) : de rd st (.map k kt vt) s = .err eZst := by
  rw [de, if_pos hz]

theorem de_sum_unknown_tag (st : Bool) (k : SumK) (vs : List Variant) {tag : UInt8} (rest : Bytes)
    (h : tag ∉ variantTags vs) : de Rd.slice st (.sum k vs) (tag :: rest) = .err (eBadTag k.tagK tag) := by
  simp [de, readU8_ok.mpr rfl, deVariants_miss Rd.slice st k.tagK rest vs 0 h]

end Borsh
