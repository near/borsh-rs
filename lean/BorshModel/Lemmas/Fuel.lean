/-
  Fuel.  The recursions over a schema container run on fuel (or are indexed by a depth).  Two facts
  about such an index are used wherever they are reasoned about: what one more unit keeps, any
  number of units keeps (`mono_of_succ`); and statements that hold *from some fuel on* (`FromOn`)
  combine without a word about the fuels themselves.
-/
namespace Borsh

theorem mono_of_succ {P : Nat → Prop} (h : ∀ n, P n → P (n + 1)) {a b : Nat} (hab : a ≤ b) (ha : P a) :
    P b := by
  induction hab with
  | refl => exact ha
  | step _ ih => exact h _ ih

/-- `Desc` (Describes) and `Wit` (MaxTight) say this by unfolding -/
def FromOn (P : Nat → Prop) : Prop := ∃ f, ∀ f', f ≤ f' → P f'

section
variable {P Q : Nat → Prop}

theorem FromOn.of_mono (mono : ∀ f f', f ≤ f' → P f → P f') : (∃ f, P f) → FromOn P
  | ⟨f, h⟩ => ⟨f, fun f' hf => mono f f' hf h⟩

theorem FromOn.shift (k : Nat) (h : ∀ f, P f → Q (f + k)) : FromOn P → FromOn Q
  | ⟨f, hp⟩ => ⟨f + k, fun f' hf =>
      Nat.sub_add_cancel (Nat.le_trans (Nat.le_add_left k f) hf) ▸ h (f' - k) (hp _ (Nat.le_sub_of_add_le hf))⟩

theorem FromOn.imp (h : ∀ f, P f → Q f) : FromOn P → FromOn Q := .shift 0 h

theorem FromOn.of_add (k : Nat) (h : ∀ f, Q (f + k)) : FromOn Q :=
  ⟨k, fun f' hf => Nat.sub_add_cancel hf ▸ h (f' - k)⟩

theorem FromOn.and : FromOn P → FromOn Q → FromOn fun f => P f ∧ Q f
  | ⟨a, ha⟩, ⟨b, hb⟩ => ⟨max a b, fun f hf =>
      ⟨ha f (Nat.le_trans (Nat.le_max_left a b) hf), hb f (Nat.le_trans (Nat.le_max_right a b) hf)⟩⟩

theorem FromOn.all {α : Type} {P : α → Nat → Prop} :
    ∀ l : List α, (∀ x ∈ l, FromOn (P x)) → FromOn fun f => ∀ x ∈ l, P x f
  | [], _ => ⟨0, fun _ _ => nofun⟩
  | x :: l, h =>
    ((h x List.mem_cons_self).and (all l fun y hy => h y (List.mem_cons_of_mem _ hy))).imp
      fun _ hf => List.forall_mem_cons.mpr hf
end

end Borsh
