/-
  Tightness of the specification maximum: for a container all of whose definitions can actually be
  read (`readable`: non-empty enums with distinct in-range discriminants, length ranges that fit
  their width, untagged sequences of one length), whenever `specMax` is finite there is a byte
  string of exactly that length which the schema-only reader walks to its end.  With `sdec_bound`
  (no described string is longer) this makes `specMax` the true maximum, not just a formula.
-/
import BorshModel.Lemmas.MaxSound
namespace Borsh

theorem Container.readable_get {c : Container} (h : c.readable = true) {d : Name} {df : Defn}
    (hg : c.get d = some df) : readableDefn df = true :=
  List.all_eq_true.mp h _ (Container.get_mem hg)

theorem readable_enum {tw : Nat} {vs : List (Int × Name × Name)} (h : readableDefn (.enum tw vs) = true) :
    vs ≠ [] ∧ (∀ v ∈ vs, 0 ≤ v.1 ∧ v.1.toNat < 256 ^ tw) ∧ (vs.map (·.1)).Nodup := by
  obtain ⟨h12, h3⟩ := Bool.and_eq_true_iff.mp h
  obtain ⟨h1, h2⟩ := Bool.and_eq_true_iff.mp h12
  refine ⟨fun e => (by rw [e] at h1; cases h1), fun v hv => ?_, of_decide_eq_true h3⟩
  obtain ⟨a, b⟩ := Bool.and_eq_true_iff.mp (List.all_eq_true.mp h2 v hv)
  exact ⟨of_decide_eq_true a, of_decide_eq_true b⟩

theorem readable_seq {lw lo hi : Nat} {e : Name} (h : readableDefn (.sequence lw lo hi e) = true) :
    if lw = 0 then lo = hi else lo ≤ hi ∧ hi < 256 ^ lw := by
  replace h : (if lw = 0 then lo == hi else decide (lo ≤ hi) && decide (hi < 256 ^ lw)) = true := h
  by_cases h0 : lw = 0
  · rw [if_pos h0] at h ⊢; exact beq_iff_eq.mp h
  · rw [if_neg h0] at h ⊢
    obtain ⟨a, b⟩ := Bool.and_eq_true_iff.mp h
    exact ⟨of_decide_eq_true a, of_decide_eq_true b⟩

def Wit (c : Container) (d : Name) (n : Nat) : Prop :=
  ∃ (bs : Bytes) (f : Nat), bs.length = n ∧ ∀ f', f ≤ f' → ∀ rest, sdec c f' d (bs ++ rest) = some rest

theorem length_flatten_replicate (k : Nat) (w : Bytes) : (List.replicate k w).flatten.length = k * w.length := by
  rw [List.length_flatten, List.map_replicate, List.sum_replicate_nat]

theorem walkNode_attained {r : Nat → Name → Bytes → Option Bytes} {g : Name → SpecSize} {df : Defn}
    (hrd : readableDefn df = true)
    (hw : ∀ e m, g e = .fin m → ∃ w : Bytes, w.length = m ∧ FromOn fun f => Parses (r f e) w)
    {n : Nat} (h : specNode g df = .fin n) :
    ∃ bs : Bytes, bs.length = n ∧ FromOn fun f => Parses (walkNode (r f) df) bs := by
  cases df with
  | primitive s =>
    cases h
    exact ⟨List.replicate n 0, List.length_replicate, .of_add 0 fun _ => .prim List.length_replicate⟩
  | tuple es | struct es =>
    have list : ∀ (es : List Name) (n : Nat), specSum g es = .fin n →
        ∃ bs : Bytes, bs.length = n ∧ FromOn fun f => Parses (listWith (r f) es) bs := by
      intro es
      induction es with
      | nil => intro n hn; cases hn; exact ⟨[], rfl, .of_add 0 fun _ => .nil⟩
      | cons e es ih =>
        intro n hn
        obtain ⟨a, ha, hn⟩ := SpecSize.bind_eq_fin hn
        obtain ⟨b, hb, hn⟩ := SpecSize.bind_eq_fin hn
        cases hn
        obtain ⟨w1, l1, p1⟩ := hw e a ha
        obtain ⟨w2, l2, p2⟩ := ih b hb
        exact ⟨w1 ++ w2, by rw [List.length_append, l1, l2], (p1.and p2).imp fun _ p => p.1.cons p.2⟩
    exact list _ n h
  | «enum» tw vs =>
    obtain ⟨hne, hall, hnd⟩ := readable_enum hrd
    obtain ⟨m, hm, hn⟩ := SpecSize.bind_eq_fin h
    cases hn
    obtain ⟨e, he, hge⟩ := (specMaxOf_fin _ m hm).2 (mt List.map_eq_nil_iff.mp hne)
    obtain ⟨v, hv, rfl⟩ := List.mem_map.mp he
    obtain ⟨w, hl, hp⟩ := hw v.2.2 m hge
    -- the tag is the discriminant of a largest variant
    have htag : ((v.1.toNat : Nat) : Int) = v.1 := Int.toNat_of_nonneg (hall v hv).1
    have hfind : vs.find? (fun x => x.1 == ((v.1.toNat : Nat) : Int)) = some v :=
      find_of_nodup (·.1) (by rw [htag]; exact beq_self_eq_true _)
        (fun b hb => (eq_of_beq hb).trans htag) vs hnd hv
    exact ⟨leBytes tw v.1.toNat ++ w, by rw [List.length_append, leBytes_length, hl],
      hp.imp fun _ => .enum (hall v hv).2 hfind⟩
  | sequence lw lo hi e =>
    have hs := readable_seq hrd
    simp only [specNode] at h
    have build : ∀ {w : Bytes} {f' : Nat}, Parses (repeatWith (r f' e) hi) w →
        Parses (walkNode (r f') (.sequence lw lo hi e)) (leBytes lw hi ++ w) := by
      intro w f' hp
      by_cases hlw : lw = 0
      · rw [if_pos hlw] at hs
        subst hlw hs
        exact .fixed hp
      · rw [if_neg hlw] at hs
        exact .counted hlw ⟨hs.1, Nat.le_refl _⟩ hs.2 hp
    by_cases hz : hi = 0
    · rw [if_pos hz] at h
      cases h
      subst hz
      -- `cases h` has made `lw` into `n`: `leBytes n 0` is the length prefix
      exact ⟨leBytes n 0 ++ [], by rw [List.append_nil, leBytes_length], .of_add 0 fun _ => build .zero⟩
    · rw [if_neg hz] at h
      obtain ⟨m, hm, hn⟩ := SpecSize.bind_eq_fin h
      cases hn
      obtain ⟨w, hl, hp⟩ := hw e m hm
      exact ⟨leBytes lw hi ++ (List.replicate hi w).flatten,
        by rw [List.length_append, leBytes_length, length_flatten_replicate, hl],
        hp.imp fun _ p => build (p.replicate hi)⟩

theorem specMax_attained (c : Container) (hr : c.readable = true) :
    ∀ (fuel : Nat) (d : Name) (path : List Name) (n : Nat), specMax c fuel d path = .fin n → Wit c d n := by
  intro fuel
  induction fuel with
  | zero => intro d path n h; cases h
  | succ fuel ih =>
    intro d path n h
    rw [specMax_step] at h
    obtain ⟨df, _, hg, h⟩ := guarded_eq h nofun nofun
    obtain ⟨bs, hl, hp⟩ := walkNode_attained (r := sdec c) (Container.readable_get hr hg)
      (fun e m hm => (ih e (d :: path) m hm).imp fun _ ⟨f, hl, hp⟩ => ⟨hl, f, hp⟩) h
    obtain ⟨f, hp⟩ := hp
    exact ⟨bs, f + 1, hl, fun _ hf => ((hp f (Nat.le_refl f)).of_get hg).mono hf⟩

end Borsh
