/-
  The scripted reader in closed form.  On a stream `d` a script serves exactly the bytes before a
  *horizon* `H` — the end of the data, or the offset of a hard failure — whatever the
  fragmentation and wherever transient `Interrupted` results occur: `read_exact(n)` and the
  byte-vector loop deliver the next `n` bytes if they lie before `H` and consume nothing beyond
  them; otherwise they end with the error that stands at `H` (end-of-stream, or the scripted
  failure unchanged).  Both loops are instances of one loop, `fillLoop`, and the closed form is
  proved once, for it.
-/
import BorshModel.Io
import BorshModel.Lemmas.Slice
namespace Borsh

theorem consumeIntr_total (intr : List (Nat × Nat)) (o : Nat) (h : 0 < pendingAt intr o) :
    totalPending (consumeIntr intr o) + 1 = totalPending intr := by
  induction intr with
  | nil => exact absurd h (Nat.lt_irrefl 0)
  | cons p rest ih =>
    obtain ⟨o', n⟩ := p
    rw [consumeIntr]
    by_cases hc : (o' == o && decide (n > 0)) = true
    · have hn : 0 < n := of_decide_eq_true (Bool.and_eq_true_iff.mp hc).2
      rw [if_pos hc, totalPending, totalPending, Nat.add_right_comm, Nat.sub_add_cancel hn]
    · -- this entry holds no interrupt for `o`: the pending one is further down
      have h0 : (if o' == o then n else 0) = 0 := ite_eq_right_iff.mpr fun he =>
        Nat.eq_zero_of_not_pos fun hn => hc (Bool.and_eq_true_iff.mpr ⟨he, decide_eq_true hn⟩)
      rw [pendingAt, h0, Nat.zero_add] at h
      rw [if_neg hc, totalPending, totalPending, Nat.add_assoc, ih h]

theorem limit_le (c n : Nat) : limit c n ≤ n := by
  unfold limit
  split
  · exact Nat.le_refl n
  · exact Nat.min_le_right c n

theorem limit_pos {c n : Nat} (h : 0 < n) : 0 < limit c n := by
  unfold limit
  split
  · exact h
  · exact Nat.lt_min.mpr ⟨Nat.pos_of_ne_zero ‹_›, h⟩

theorem xferLen_le (sc : Script) (intr : List (Nat × Nat)) (pos n : Nat) : xferLen sc intr pos n ≤ n :=
  Nat.le_trans (limit_le _ _) (limit_le _ _)

theorem xferLen_pos (sc : Script) (intr : List (Nat × Nat)) (pos : Nat) {n : Nat} (h : 0 < n) :
    0 < xferLen sc intr pos n :=
  limit_pos (limit_pos h)

theorem foldl_min_bounds (pos : Nat) (os : List Nat) (init : Nat) (hi : 0 < init)
    (ho : ∀ o ∈ os, pos < o) :
    0 < os.foldl (fun m x => min m (x - pos)) init ∧ os.foldl (fun m x => min m (x - pos)) init ≤ init := by
  induction os generalizing init with
  | nil => exact ⟨hi, Nat.le_refl _⟩
  | cons o os ih =>
    obtain ⟨h1, h2⟩ := ih _ (Nat.lt_min.mpr ⟨hi, Nat.sub_pos_of_lt (ho o List.mem_cons_self)⟩)
      fun x hx => ho x (List.mem_cons_of_mem _ hx)
    exact ⟨h1, Nat.le_trans h2 (Nat.min_le_left _ _)⟩

theorem xferLen_stop (sc : Script) (intr : List (Nat × Nat)) (pos o n : Nat) (st : Stop)
    (hs : sc.stop = some (o, st)) (hlt : pos < o) : xferLen sc intr pos n ≤ o - pos := by
  -- the stop is the first of the events ahead
  obtain ⟨h1, h2⟩ : 0 < eventCap sc intr pos ∧ eventCap sc intr pos ≤ o - pos := by
    simp only [eventCap, stopOffsets, hs, List.cons_append, List.nil_append, List.filter_cons,
      decide_eq_true hlt, if_true]
    exact foldl_min_bounds pos _ _ (Nat.sub_pos_of_lt hlt)
      fun x hx => of_decide_eq_true (List.mem_filter.mp hx).2
  unfold xferLen limit
  rw [if_neg (Nat.ne_of_gt h1)]
  exact Nat.le_trans (Nat.min_le_left _ _) h2

theorem scriptRead_intr {sc : Script} {q : Nat} {s : RState} (h : 0 < pendingAt s.intr s.pos) :
    scriptRead sc q s = .err ⟨.interrupted, .simple⟩ := by
  unfold scriptRead; rw [if_pos h]

theorem scriptRead_fail {sc : Script} {q : Nat} {s : RState} {k : Kind} {id : Nat}
    (hp : ¬ 0 < pendingAt s.intr s.pos) (hs : sc.stop = some (s.pos, .fail k id)) :
    scriptRead sc q s = .err (userErr k id) := by
  unfold scriptRead; rw [if_neg hp, hs]; simp only [beq_self_eq_true, if_true]

theorem scriptRead_ok {sc : Script} {q : Nat} {s : RState} (hp : ¬ 0 < pendingAt s.intr s.pos)
    (hs : ∀ k id, sc.stop ≠ some (s.pos, .fail k id)) :
    scriptRead sc q s = .ok ((s.data.drop s.pos).take (xferLen sc s.intr s.pos q),
      { s with pos := s.pos + ((s.data.drop s.pos).take (xferLen sc s.intr s.pos q)).length }) := by
  unfold scriptRead; rw [if_neg hp]
  split
  · rename_i o k id h
    split
    · rename_i he; exact absurd (eq_of_beq he ▸ h) (hs k id)
    · rfl
  · rfl

/-- On the stream `d` the script serves exactly the bytes before offset `H`; a read loop whose own
end-of-stream error is `eof` then ends with `E`: the data has run out (no hard failure, one that
lies beyond the data, or an `Ok(0)` stop, which readers ignore), or the hard failure is met. -/
inductive Horizon (sc : Script) (d : Bytes) (eof : Err) : Nat → Err → Prop
  | eof : (∀ o k id, sc.stop = some (o, .fail k id) → d.length < o) → Horizon sc d eof d.length eof
  -- the loops retry on `Interrupted`: a stop of that kind would be retried until the fuel runs out
  | stop {o k id} : sc.stop = some (o, .fail k id) → k ≠ .interrupted → o ≤ d.length →
      Horizon sc d eof o (userErr k id)

theorem Horizon.of_none {sc : Script} {d : Bytes} {eof : Err} (h : sc.stop = none) :
    Horizon sc d eof d.length eof :=
  .eof fun _ _ _ hs => by rw [h] at hs; cases hs

theorem Horizon.le {sc : Script} {d : Bytes} {eof E : Err} {H : Nat} (h : Horizon sc d eof H E) :
    H ≤ d.length := by
  cases h with
  | eof => exact Nat.le_refl _
  | stop _ _ h => exact h

theorem scriptRead_data {sc : Script} {eof E : Err} {H q : Nat} {s : RState}
    (hor : Horizon sc s.data eof H E) (hp : ¬ 0 < pendingAt s.intr s.pos) (hlt : s.pos < H) (hq : 0 < q) :
    ∃ k, 0 < k ∧ k ≤ q ∧ s.pos + k ≤ H ∧ ((s.data.drop s.pos).take k).length = k ∧
      scriptRead sc q s = .ok ((s.data.drop s.pos).take k, { s with pos := s.pos + k }) := by
  have hpos : s.pos ≤ s.data.length := Nat.le_of_lt (Nat.lt_of_lt_of_le hlt hor.le)
  have hlen := List.length_take_of_le
    (Nat.min_le_right (xferLen sc s.intr s.pos q) (s.data.drop s.pos).length)
  refine ⟨min (xferLen sc s.intr s.pos q) (s.data.drop s.pos).length,
    Nat.lt_min.mpr ⟨xferLen_pos sc s.intr s.pos hq, ?_⟩,
    Nat.le_trans (Nat.min_le_left _ _) (xferLen_le sc s.intr s.pos q), ?_, hlen, ?_⟩
  · rw [List.length_drop]; exact Nat.sub_pos_of_lt (Nat.lt_of_lt_of_le hlt hor.le)
  · -- the data ends at the horizon, or a stop ahead caps the transfer
    cases hor with
    | eof => exact Nat.add_le_of_le_sub' hpos (List.length_drop ▸ Nat.min_le_right _ _)
    | stop hs =>
      exact Nat.add_le_of_le_sub' (Nat.le_of_lt hlt)
        (Nat.le_trans (Nat.min_le_left _ _) (xferLen_stop sc s.intr s.pos _ q _ hs hlt))
  · rw [scriptRead_ok hp, List.take_eq_take_min, hlen]
    intro k id hs
    cases hor with
    | eof h => exact Nat.lt_asymm hlt (h _ _ _ hs)
    | stop h => rw [h] at hs; cases hs; exact Nat.lt_irrefl _ hlt

structure Advanced (s s' : RState) (k : Nat) : Prop where
  data : s'.data = s.data
  pos : s'.pos = s.pos + k
  intr : totalPending s'.intr ≤ totalPending s.intr

theorem Advanced.refl (s : RState) : Advanced s s 0 := ⟨rfl, rfl, Nat.le_refl _⟩

theorem Advanced.trans {s s₁ s₂ : RState} {k m : Nat} (h₁ : Advanced s s₁ k) (h₂ : Advanced s₁ s₂ m) :
    Advanced s s₂ (k + m) :=
  ⟨h₂.data.trans h₁.data, by rw [h₂.pos, h₁.pos, Nat.add_assoc], Nat.le_trans h₂.intr h₁.intr⟩

def ReadsUpTo (H : Nat) (E : Err) (n : Nat) (s : RState) (acc : Bytes)
    (x : Out (Bytes × RState)) : Prop :=
  (s.pos + n ≤ H → ∃ s', x = .ok (acc ++ (s.data.drop s.pos).take n, s') ∧ Advanced s s' n) ∧
  (¬ s.pos + n ≤ H → x = .err E)

/-- a loop that has taken the next `k` bytes and goes on from there for `r₁` more -/
theorem ReadsUpTo.step {H : Nat} {E : Err} {s s₁ : RState} {k r r₁ : Nat} {acc acc₁ : Bytes}
    {x : Out (Bytes × RState)} (adv : Advanced s s₁ k) (hacc : acc₁ = acc ++ (s.data.drop s.pos).take k)
    (hr : r = k + r₁) (h : ReadsUpTo H E r₁ s₁ acc₁ x) : ReadsUpTo H E r s acc x := by
  unfold ReadsUpTo at h ⊢
  rw [adv.data, adv.pos, Nat.add_assoc, hacc, ← hr] at h
  refine ⟨fun hfit => ?_, h.2⟩
  obtain ⟨s', h1, h2⟩ := h.1 hfit
  exact ⟨s', by rw [h1, hr, List.append_assoc, List.take_add, List.drop_drop], hr ▸ adv.trans h2⟩

/-- `readExactLoop` and `bulkLoopI` in one: fill `acc` up to `len` bytes, the buffer handed to
`read` growing as in `u8::vec_from_reader`; `eof` is the loop's own error for `Ok(0)` -/
def fillLoop (sc : Script) (eof : Err) : Nat → Nat → Nat → Bytes → RState → Out (Bytes × RState)
  | 0, _, _, _, _ => .panic .fuel
  | fuel+1, len, cap, acc, s =>
    if acc.length < len then
      let cap' := if acc.length == cap then min (2 * cap) len else cap
      match scriptRead sc (cap' - acc.length) s with
      | .ok (got, s') =>
        if got.length == 0 then .err eof
        else fillLoop sc eof fuel len cap' (acc ++ got) s'
      | .err e =>
        if e.kind = .interrupted then fillLoop sc eof fuel len cap' acc (afterIntr s) else .err e
      | .panic p => .panic p
    else .ok (acc, s)

theorem bulkLoopI_eq_fill (sc : Script) : ∀ fuel len cap acc s,
    bulkLoopI sc fuel len cap acc s = fillLoop sc eUnexpectedLength fuel len cap acc s := by
  intro fuel
  induction fuel with
  | zero => intros; rfl
  | succ fuel ih => intro len cap acc s; simp only [bulkLoopI, fillLoop, ih]; rfl

/-- `read_exact` asks for the whole rest of the buffer every time: the cap never moves -/
theorem readExactLoop_eq_fill (sc : Script) : ∀ fuel n acc s,
    readExactLoop sc fuel n acc s = fillLoop sc eEof fuel n n acc s := by
  intro fuel
  induction fuel with
  | zero => intros; rfl
  | succ fuel ih =>
    intro n acc s
    have hcap : (if (acc.length == n) = true then min (2 * n) n else n) = n :=
      ite_eq_right_iff.mpr fun _ => Nat.min_eq_right (Nat.le_mul_of_pos_left n Nat.two_pos)
    simp only [readExactLoop, fillLoop, hcap, ih]
    rfl

/-- The closed form, with `r` bytes still wanted.  The measure is `r` plus the pending interrupts:
every call of `read` lowers one of them. -/
theorem fillLoop_upTo {sc : Script} {d : Bytes} {eof E : Err} {H : Nat} (hor : Horizon sc d eof H E)
    (len : Nat) : ∀ (fuel cap : Nat) (acc : Bytes) (s : RState) (r : Nat),
      r + totalPending s.intr < fuel → acc.length + r = len → acc.length ≤ cap → cap ≤ len →
      (0 < cap ∨ len = 0) → s.data = d → s.pos ≤ H →
      ReadsUpTo H E r s acc (fillLoop sc eof fuel len cap acc s) := by
  intro fuel
  induction fuel with
  | zero => intro _ _ _ _ h; exact absurd h (Nat.not_lt_zero _)
  | succ fuel ih =>
    intro cap acc s r hf hr hacc hcap hc0 hd hpos
    subst hd
    by_cases hlt : 0 < r
    · have hal : acc.length < len := hr ▸ Nat.lt_add_of_pos_right hlt
      simp only [fillLoop, if_pos hal]
      obtain ⟨hq, hle⟩ := cap_step hacc hcap hc0 hal
      generalize (if (acc.length == cap) = true then min (2 * cap) len else cap) = cap' at hq hle
      by_cases hp : 0 < pendingAt s.intr s.pos
      · have hcons : totalPending (afterIntr s).intr + 1 = totalPending s.intr :=
          consumeIntr_total s.intr s.pos hp
        simp only [scriptRead_intr hp, if_true]
        exact .step (s₁ := afterIntr s) ⟨rfl, rfl, hcons ▸ Nat.le_succ _⟩ (List.append_nil acc).symm
          (Nat.zero_add r).symm
          (ih cap' acc (afterIntr s) r (Nat.lt_of_succ_lt_succ (by rw [← hcons] at hf; exact hf)) hr
            (Nat.le_of_lt hq) hle (.inl (Nat.zero_lt_of_lt hq)) rfl hpos)
      · by_cases hH : s.pos = H
        · refine ⟨fun h => absurd (hH ▸ h) (Nat.not_le_of_lt (Nat.lt_add_of_pos_right hlt)), fun _ => ?_⟩
          cases hor with
          | eof hs =>
            rw [scriptRead_ok hp (fun k id h => Nat.lt_irrefl _ (hH ▸ hs _ k id h)), hH,
              List.drop_length, List.take_nil]
            rfl
          | stop hs hk =>
            rw [scriptRead_fail hp (hH ▸ hs)]
            simp only [userErr, hk, if_false]
        · obtain ⟨k, hk0, hkq, hkH, hlen, hrd⟩ :=
            scriptRead_data hor hp (Nat.lt_of_le_of_ne hpos hH) (q := cap' - acc.length)
              (Nat.sub_pos_of_lt hq)
          -- the transfer stays within what is still wanted
          obtain ⟨r', rfl⟩ : ∃ r', r = k + r' := Nat.exists_eq_add_of_le
            (Nat.le_trans hkq (Nat.sub_le_of_le_add (Nat.add_comm _ _ ▸ hr ▸ hle)))
          have hne : (k == 0) = false := beq_false_of_ne (Nat.ne_of_gt hk0)
          simp only [hrd, hlen, hne, Bool.false_eq_true, if_false]
          have hl : (acc ++ (s.data.drop s.pos).take k).length = acc.length + k := by
            rw [List.length_append, hlen]
          exact .step (s₁ := { s with pos := s.pos + k }) ⟨rfl, rfl, Nat.le_refl _⟩ rfl rfl
            (ih cap' _ { s with pos := s.pos + k } r'
              (Nat.lt_of_lt_of_le (Nat.add_lt_add_right (Nat.lt_add_of_pos_left hk0) _) (Nat.le_of_lt_succ hf))
              (by rw [hl, Nat.add_assoc]; exact hr)
              (by rw [hl]; exact Nat.add_le_of_le_sub' (Nat.le_of_lt hq) hkq) hle
              (.inl (Nat.zero_lt_of_lt hq)) rfl hkH)
    · obtain rfl : r = 0 := Nat.eq_zero_of_not_pos hlt
      rw [fillLoop, if_neg (hr ▸ Nat.lt_irrefl _)]
      exact ⟨fun _ => ⟨s, by rw [List.take_zero, List.append_nil], Advanced.refl s⟩, fun h => absurd hpos h⟩

theorem readExactLoop_upTo {sc : Script} {s : RState} {H : Nat} {E : Err}
    (hor : Horizon sc s.data eEof H E) (fuel n : Nat) (acc : Bytes)
    (hf : (n - acc.length) + totalPending s.intr < fuel) (hacc : acc.length ≤ n) (hpos : s.pos ≤ H) :
    ReadsUpTo H E (n - acc.length) s acc (readExactLoop sc fuel n acc s) := by
  rw [readExactLoop_eq_fill]
  exact fillLoop_upTo hor n fuel n acc s (n - acc.length) hf (Nat.add_sub_cancel' hacc) hacc
    (Nat.le_refl _) (Nat.eq_zero_or_pos n).symm rfl hpos

theorem bulkLoopI_upTo {sc : Script} {s : RState} {H : Nat} {E : Err}
    (hor : Horizon sc s.data eUnexpectedLength H E) (fuel len cap : Nat) (acc : Bytes)
    (hf : (len - acc.length) + totalPending s.intr < fuel) (hacc : acc.length ≤ cap) (hcap : cap ≤ len)
    (hc0 : 0 < cap ∨ len = 0) (hpos : s.pos ≤ H) :
    ReadsUpTo H E (len - acc.length) s acc (bulkLoopI sc fuel len cap acc s) := by
  rw [bulkLoopI_eq_fill]
  exact fillLoop_upTo hor len fuel cap acc s (len - acc.length) hf
    (Nat.add_sub_cancel' (Nat.le_trans hacc hcap)) hacc hcap hc0 rfl hpos

theorem readExactLoop_closed (sc : Script) (hstop : sc.stop = none) :
    ∀ (fuel n : Nat) (acc : Bytes) (s : RState),
      (n - acc.length) + totalPending s.intr < fuel → acc.length ≤ n → s.pos ≤ s.data.length →
      (n - acc.length ≤ s.data.length - s.pos →
        ∃ s', readExactLoop sc fuel n acc s =
            .ok (acc ++ (s.data.drop s.pos).take (n - acc.length), s') ∧
          Advanced s s' (n - acc.length)) ∧
      (¬ n - acc.length ≤ s.data.length - s.pos → readExactLoop sc fuel n acc s = .err eEof) := by
  intro fuel n acc s hf hacc hpos
  have := readExactLoop_upTo (.of_none hstop) fuel n acc hf hacc hpos
  exact ⟨fun h => this.1 (Nat.add_le_of_le_sub' hpos h), fun h => this.2 fun h' => h (Nat.le_sub_of_add_le' h')⟩

theorem bulkLoopI_closed (sc : Script) (hstop : sc.stop = none) :
    ∀ (fuel len cap : Nat) (acc : Bytes) (s : RState),
      (len - acc.length) + totalPending s.intr < fuel → acc.length ≤ cap → cap ≤ len →
      (0 < cap ∨ len = 0) → s.pos ≤ s.data.length →
      (len - acc.length ≤ s.data.length - s.pos →
        ∃ s', bulkLoopI sc fuel len cap acc s =
            .ok (acc ++ (s.data.drop s.pos).take (len - acc.length), s') ∧
          Advanced s s' (len - acc.length)) ∧
      (¬ len - acc.length ≤ s.data.length - s.pos →
        bulkLoopI sc fuel len cap acc s = .err eUnexpectedLength) := by
  intro fuel len cap acc s hf hacc hcap hc0 hpos
  have := bulkLoopI_upTo (.of_none hstop) fuel len cap acc hf hacc hcap hc0 hpos
  exact ⟨fun h => this.1 (Nat.add_le_of_le_sub' hpos h), fun h => this.2 fun h' => h (Nat.le_sub_of_add_le' h')⟩

theorem readExactLoop_stop (sc : Script) (o : Nat) (k : Kind) (id : Nat)
    (hstop : sc.stop = some (o, .fail k id)) (hk : k ≠ .interrupted) :
    ∀ (fuel n : Nat) (acc : Bytes) (s : RState),
      (n - acc.length) + totalPending s.intr < fuel → acc.length ≤ n → s.pos ≤ o →
      o ≤ s.data.length →
      (s.pos + (n - acc.length) ≤ o →
        ∃ s', readExactLoop sc fuel n acc s =
            .ok (acc ++ (s.data.drop s.pos).take (n - acc.length), s') ∧
          Advanced s s' (n - acc.length)) ∧
      (¬ s.pos + (n - acc.length) ≤ o → readExactLoop sc fuel n acc s = .err (userErr k id)) :=
  fun fuel n acc _ hf hacc hpos hlen => readExactLoop_upTo (.stop hstop hk hlen) fuel n acc hf hacc hpos

theorem bulkLoopI_stop (sc : Script) (o : Nat) (k : Kind) (id : Nat)
    (hstop : sc.stop = some (o, .fail k id)) (hk : k ≠ .interrupted) :
    ∀ (fuel len cap : Nat) (acc : Bytes) (s : RState),
      (len - acc.length) + totalPending s.intr < fuel → acc.length ≤ cap → cap ≤ len →
      (0 < cap ∨ len = 0) → s.pos ≤ o → o ≤ s.data.length →
      (s.pos + (len - acc.length) ≤ o →
        ∃ s', bulkLoopI sc fuel len cap acc s =
            .ok (acc ++ (s.data.drop s.pos).take (len - acc.length), s') ∧
          Advanced s s' (len - acc.length)) ∧
      (¬ s.pos + (len - acc.length) ≤ o →
        bulkLoopI sc fuel len cap acc s = .err (userErr k id)) :=
  fun fuel len cap acc _ hf hacc hcap hc0 hpos hlen =>
    bulkLoopI_upTo (.stop hstop hk hlen) fuel len cap acc hf hacc hcap hc0 hpos

theorem script_readExact {sc : Script} {s : RState} {H : Nat} {E : Err}
    (hor : Horizon sc s.data eEof H E) (hpos : s.pos ≤ H) (n : Nat) :
    ReadsUpTo H E n s [] ((Rd.script sc).readExact n s) :=
  readExactLoop_upTo hor _ n [] (Nat.lt_succ_self _) (Nat.zero_le n) hpos

theorem script_readBulk {sc : Script} {s : RState} {H : Nat} {E : Err}
    (hor : Horizon sc s.data eUnexpectedLength H E) (hpos : s.pos ≤ H) (len : Nat) :
    ReadsUpTo H E len s [] ((Rd.script sc).readBulk len s) :=
  bulkLoopI_upTo hor _ len _ [] (Nat.lt_succ_self _) (Nat.zero_le _) (Nat.min_le_left _ _)
    ((Nat.eq_zero_or_pos len).symm.imp_left fun h => Nat.lt_min.mpr ⟨h, Nat.two_pow_pos 20⟩) hpos

end Borsh
