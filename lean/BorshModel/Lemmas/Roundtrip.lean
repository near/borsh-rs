/- Round trip on slices: every specification encoding decodes to the canonical form. -/
import BorshModel.Lemmas.Wire
import BorshModel.Lemmas.Variant
import BorshModel.Lemmas.IntCodec
import BorshModel.Lemmas.CanonId
namespace Borsh

theorem valBytes_bytesVal (vs : List Val) (h : ∀ v ∈ vs, HasTy (.int .u8) v = true) :
    bytesVal (valBytes vs) = vs := by
  rw [bytesVal, valBytes, List.map_map]
  refine (List.map_congr_left fun v hv => ?_).trans (List.map_id vs)
  cases v with
  | int i =>
    -- `0 ≤ i < 256`: the byte of `i` is `i`
    obtain ⟨h0, h1⟩ : 0 ≤ i ∧ i < 256 := intInRange_iff.mp (h _ hv)
    obtain ⟨n, rfl⟩ := Int.eq_ofNat_of_zero_le h0
    show Val.int ((UInt8.ofNat ((n : Int) % 256).toNat).toNat : Nat) = _
    rw [Int.emod_eq_of_lt h0 h1, Int.toNat_natCast, UInt8.toNat_ofNat_of_lt' (Int.ofNat_lt.mp h1)]
    rfl
  | _ => cases h _ hv

/-- the motive of `fwd_all` -/
def Fwd (st : Bool) (t : Ty) : Prop :=
  ∀ v, HasTy t v = true → Dec (de Rd.slice st t) (Spec.enc t) (canon t) v
/-- the same for a field list (`Dec` is about one value, so it is written out) -/
def FwdF (st : Bool) (fs : List Field) : Prop :=
  ∀ vs, HasTyFields fs vs = true → ∀ b, Spec.encFields fs vs = .ok b →
    ∀ rest, deFields Rd.slice st fs (b ++ rest) = .ok (canonFields fs vs, rest)

theorem fwd_seq (st : Bool) (k : SeqK) (t : Ty) (hkey : k = .indexSet → keyTy t = true)
    (hw : WfTy (.seq k t) = true) (ih : Fwd st t) : Fwd st (.seq k t) := by
  intro v hv b hb rest
  simp only [WfTy, Bool.and_eq_true, Bool.or_eq_true, Bool.not_eq_eq_eq_not, Bool.not_true] at hw
  rw [de_seq_slice _ _ _ _ (fun h => by simpa [h] using hw.2)]
  cases v with
  | list vs =>
    simp only [HasTy, Bool.and_eq_true, bne_iff_ne, ne_eq, Bool.or_eq_true] at hv
    obtain ⟨hz, hd⟩ := deVec_dec vs (fun v h => ih v (List.all_eq_true.mp hv.1.2 v h)) hb rest
    -- where the serializer does not refuse zero-sized elements, the type excludes them
    have hz' : memZero t = false := hw.1.2.elim (fun h => by rwa [h, Bool.true_and] at hz) id
    rw [if_neg (Bool.eq_false_iff.mp hz'), hd, Out.map_ok, canon]
    cases k with
    | vecDeque => exact absurd rfl hv.1.1
    | indexSet =>
      rw [map_id_of vs fun w hw => canon_id_all t (hkey rfl) w (List.all_eq_true.mp hv.1.2 w hw)]
      exact congrArg (fun l => Out.ok (Val.list l, rest))
        (collectIndexSet_of_distinct vs (hv.2.resolve_left fun h => h rfl))
    | _ => rfl
  | deque a c =>
    simp only [HasTy, Bool.and_eq_true, beq_iff_eq] at hv
    cases hv.1.1
    obtain ⟨hz, hd⟩ := deVec_dec (a ++ c) (fun v h => (List.mem_append.mp h).elim
      (ih v ∘ List.all_eq_true.mp hv.1.2 v) (ih v ∘ List.all_eq_true.mp hv.2 v)) hb rest
    rw [if_neg (Bool.eq_false_iff.mp hz), hd]
    rfl
  | _ => cases hv

/-- the order checks see only the keys -/
theorem sa_map_of_key {key f : Val → Val} {l : List Val} (h : ∀ e ∈ l, key (f e) = key e) :
    strictlyAscending key (l.map f) = strictlyAscending key l := by
  rw [Bool.eq_iff_iff, sa_iff_pairwise, sa_iff_pairwise, List.pairwise_map]
  exact List.Pairwise.iff_of_mem fun ha hb => by rw [h _ ha, h _ hb]

theorem distinct_map_of_key {key f : Val → Val} {l : List Val} (h : ∀ e ∈ l, key (f e) = key e) :
    distinctKeys key (l.map f) = distinctKeys key l := by
  rw [Bool.eq_iff_iff, distinct_iff_pairwise, distinct_iff_pairwise, List.pairwise_map]
  exact List.Pairwise.iff_of_mem fun ha hb => by rw [h _ ha, h _ hb]

/-- in either mode the order check lets a strictly ascending list through -/
theorem orderCheck_pass (st : Bool) {key : Val → Val} {l : List Val}
    (h : strictlyAscending key l = true) {α : Type} (a b : α) :
    (if (st && !strictlyAscending key l) = true then a else b) = b := by
  rw [h, Bool.not_true, Bool.and_false, if_neg Bool.false_ne_true]

theorem fwd_set (st : Bool) (k : SetK) (t : Ty) (hkey : keyTy t = true) (ih : Fwd st t) :
    Fwd st (.set k t) := by
  intro v hv b hb rest
  cases v with
  | list vs =>
    simp only [HasTy, Bool.and_eq_true] at hv
    simp only [Spec.enc] at hb
    have hall := fun x hx => List.all_eq_true.mp hv.1 x ((written_set_perm k vs).subset hx)
    obtain ⟨hz, hd⟩ := deVec_dec _ (fun x hx => ih x (hall x hx)) hb rest
    rw [de, if_neg (Bool.eq_false_iff.mp hz), deVec_slice, hd, Out.bind_ok]
    -- an element is its own canonical form: the order check and the collector see what was written
    have hk := fun x hx => canon_id_all t hkey x (hall x hx)
    cases k
    · have hsa : strictlyAscending id ((sortByKey id vs).map _) = true :=
        (sa_map_of_key hk).trans (sortByKey_sa id vs hv.2)
      simp only [canon, orderCheck_pass st hsa, collectSet_of_sa _ hsa]
    · have hsa : strictlyAscending id (vs.map _) = true := (sa_map_of_key hk).trans hv.2
      simp only [canon, orderCheck_pass st hsa, collectSet_of_sa _ hsa, sortByKey_of_sa id vs hv.2]
  | _ => cases hv

theorem entry_dec {st : Bool} {kt vt : Ty} (ihk : Fwd st kt) (ihv : Fwd st vt) {e : Val}
    (he : ∃ a c, e = .list [a, c] ∧ HasTy kt a = true ∧ HasTy vt c = true) :
    Dec (deEntry (de Rd.slice st kt) (de Rd.slice st vt)) (encEntry (Spec.enc kt) (Spec.enc vt))
      (canonEntry (canon kt) (canon vt)) e := by
  obtain ⟨a, c, rfl, ha, hc⟩ := he
  intro b hb rest
  simp only [encEntry, Spec.bind_eq_ok, Spec.pure_eq_ok] at hb
  obtain ⟨x, hx, y, hy, rfl⟩ := hb
  rw [deEntry, List.append_assoc, ihk a ha x hx, Out.bind_ok, ihv c hc y hy]
  rfl

theorem canonEntry_key {kt vt : Ty} (hkey : keyTy kt = true) {e : Val}
    (he : ∃ a c, e = .list [a, c] ∧ HasTy kt a = true ∧ HasTy vt c = true) :
    entryKey (canonEntry (canon kt) (canon vt) e) = entryKey e := by
  obtain ⟨a, c, rfl, ha, _⟩ := he
  exact canon_id_all kt hkey a ha

theorem fwd_map (st : Bool) (k : MapK) (kt vt : Ty) (hkey : keyTy kt = true)
    (ihk : Fwd st kt) (ihv : Fwd st vt) : Fwd st (.map k kt vt) := by
  intro v hv b hb rest
  cases v with
  | list es =>
    simp only [HasTy, Bool.and_eq_true] at hv
    rw [enc_map] at hb
    have hpair := fun e he => entry_pair (List.all_eq_true.mp hv.1 e ((written_map_perm k es).subset he))
    obtain ⟨hz, hd⟩ := deVec_dec _ (fun e he => entry_dec ihk ihv (hpair e he)) hb rest
    rw [de, if_neg (Bool.eq_false_iff.mp hz), hd, Out.bind_ok]
    have hk := fun e he => canonEntry_key hkey (hpair e he)
    cases k
    · have hsa : strictlyAscending entryKey ((sortByKey entryKey es).map _) = true :=
        (sa_map_of_key hk).trans (sortByKey_sa entryKey es hv.2)
      simp only [canon, orderCheck_pass st hsa, collectMap_of_sa _ hsa]
    · have hsa : strictlyAscending entryKey (es.map _) = true := (sa_map_of_key hk).trans hv.2
      simp only [canon, orderCheck_pass st hsa, collectMap_of_sa _ hsa, sortByKey_of_sa entryKey es hv.2]
    · have hdk : distinctKeys entryKey (es.map _) = true := (distinct_map_of_key hk).trans hv.2
      simp only [canon, collectIndexMap_of_distinct _ hdk]
  | _ => cases hv

/-- **Every encoding of a value of a well-formed type whose set / map / index-set keys are key
types decodes to the canonical form of the value and leaves exactly what followed.**  The proof
follows the clauses of `HasTy`: they fix the shape of the value. -/
theorem fwd_all (st : Bool) : ∀ t : Ty, keysOk t = true → WfTy t = true → Fwd st t := by
  apply Ty.induct_step (P := fun t => keysOk t = true → WfTy t = true → Fwd st t)
    (PF := fun fs => keysOkFields fs = true → WfFields fs = true → FwdF st fs)
    (PV := fun vs => ∀ x ∈ vs, keysOkFields x.2.2 = true → WfFields x.2.2 = true → FwdF st x.2.2)
  case step =>
    intro t ih hp hw v
    fun_cases HasTy t v
    next k i =>  -- `int`
      intro hv b hb rest
      cases hb
      -- `Spec.int k.width i` is `encInt k i` by unfolding
      show de Rd.slice st (.int k) (encInt k i ++ rest) = _
      rw [de, readMapped_ok.mpr ⟨encInt_length k i, rfl⟩]
      exact congrArg (fun x => Out.ok (Val.int x, rest)) (decInt_encInt k i hv)
    next k i =>  -- `nonzero`
      intro hv b hb rest
      rw [Bool.and_eq_true, bne_iff_ne] at hv
      cases hb
      show de Rd.slice st (.nonzero k) (encInt k i ++ rest) = _
      rw [de, readMapped_ok.mpr ⟨encInt_length k i, rfl⟩, Out.bind_ok]
      simp only [decInt_encInt k i hv.1, beq_iff_eq, hv.2, if_false]
      rfl
    next k i =>  -- `float`
      intro hv b hb rest
      simp only [Bool.and_eq_true, decide_eq_true_eq] at hv
      by_cases hn : isNanBits k i.toNat = true
      · rw [Spec.enc, if_pos hn] at hb
        cases hb
      · rw [Spec.enc, if_neg hn] at hb
        cases hb
        rw [de, readMapped_ok.mpr ⟨leBytes_length _ _, rfl⟩, Out.bind_ok]
        simp only [ofLe_leBytes_of_lt ((Int.toNat_lt hv.1).mpr hv.2), hn, Int.toNat_of_nonneg hv.1]
        rfl
    next x =>  -- `bool`
      intro _ b hb rest
      cases hb
      rw [de, List.singleton_append, readU8_ok.mpr rfl]
      cases x <;> rfl
    case case5 | case6 =>  -- `str`, ASCII or UTF-8
      rename_i k bs hk
      intro hv b hb rest
      obtain ⟨hl, rfl⟩ := Spec.enc_str_ok.mp hb
      rw [de, deByteVec_ok.mpr ⟨hl, rfl⟩, Out.bind_ok]
      simp only [hk, hv, if_true, Bool.false_eq_true, if_false]
      rfl
    next i =>  -- `asciiChar`
      intro hv b hb rest
      simp only [Bool.and_eq_true, decide_eq_true_eq] at hv
      cases hb
      have hlt : i.toNat < 128 := (Int.toNat_lt hv.1).mpr hv.2
      have h2 : (UInt8.ofNat i.toNat).toNat = i.toNat :=
        UInt8.toNat_ofNat_of_lt' (Nat.lt_trans hlt (by decide))
      rw [de, List.singleton_append, readU8_ok.mpr rfl, Out.bind_ok]
      dsimp only
      rw [if_pos (UInt8.lt_iff_toNat_lt.mpr (h2.symm ▸ hlt)), h2, Int.toNat_of_nonneg hv.1]
      rfl
    next k bs =>  -- `raw`
      intro hv b hb rest
      cases hb
      rw [de, readMapped_ok.mpr ⟨eq_of_beq hv, rfl⟩]
      rfl
    case case9 | case10 =>  -- `seq`, a list or a deque
      intro hv
      simp only [keysOk, Bool.and_eq_true, Bool.or_eq_true, bne_iff_ne, ne_eq] at hp
      have hw' := hw
      simp only [WfTy, Bool.and_eq_true] at hw'
      exact fwd_seq st _ _ (fun h => hp.2.resolve_left (fun h' => h' h)) hw (ih hp.1 hw'.1.1) _ hv
    next k t vs =>  -- `set`
      simp only [keysOk, Bool.and_eq_true] at hp
      exact fwd_set st k t hp.2 (ih hp.1 hw) (.list vs)
    next k a b es =>  -- `map`
      simp only [keysOk, Bool.and_eq_true] at hp
      simp only [WfTy, Bool.and_eq_true] at hw
      exact fwd_map st k a b hp.2 (ih.1 hp.1.1 hw.1) (ih.2 hp.1.2 hw.2) (.list es)
    next n t vs =>  -- `array`
      intro hv b hb rest
      simp only [Bool.and_eq_true, beq_iff_eq] at hv
      rw [Spec.enc] at hb
      rw [de_array_slice, ← hv.1, repeatDe_dec vs (fun v h => ih hp hw v (List.all_eq_true.mp hv.2 v h)) hb]
      rfl
    next k fs vs =>  -- `prod`
      intro hv b hb rest
      rw [de, ih hp hw vs hv b hb rest]
      rfl
    next k vs idx fvs =>  -- `sum`
      intro hv b hb rest
      simp only [WfTy, Bool.and_eq_true, decide_eq_true_eq] at hw
      obtain ⟨x, hx, hf, c, hc, rfl⟩ := encVariant_ok hv hb
      have hm := List.mem_of_getElem? hx
      rw [de, List.cons_append, readU8_ok.mpr rfl, Out.bind_ok, deVariants_hit _ _ _ 0 _ hw.2 hx,
        ih x hm (keysOkVariants_mem hp x hm) (WfVariants_mem hw.1 x hm) fvs hf c hc rest, canon,
        canonVariant_eq, hx, Nat.zero_add]
      rfl
    next k t =>  -- `wrap`
      intro hv b hb rest
      rw [canon, de]
      exact ih hp hw v hv b hb rest
    next t =>  -- `custom`
      intro hv b hb rest
      cases isU32_eq hw
      cases v with
      | int i =>
        cases hb
        show de Rd.slice st (.custom _) ((encInt .u32 i).reverse ++ rest) = _
        rw [de, readMapped_ok.mpr ⟨by rw [List.length_reverse, encInt_length]; rfl, rfl⟩]
        simp only [Out.map_ok, List.reverse_reverse]
        exact congrArg (fun x => Out.ok (Val.int x, rest)) (decInt_encInt .u32 i hv)
      | _ => cases hv
    next => exact nofun  -- no clause of `HasTy`
  case h_fnil =>
    intro _ _ vs hv b hb rest
    cases vs with
    | nil => cases hb; rfl
    | cons => cases hv
  case h_fcons =>
    intro n sk t fs iht ihf hp hw vs hv b hb rest
    simp only [keysOkFields, Bool.and_eq_true] at hp
    simp only [WfFields, Bool.and_eq_true] at hw
    cases vs with
    | nil => cases hv
    | cons v vs =>
      rw [HasTyFields, Bool.and_eq_true] at hv
      rw [Spec.encFields] at hb
      rw [deFields, canonFields]
      cases sk
      · simp only [Bool.false_eq_true, if_false, Spec.bind_eq_ok, Spec.pure_eq_ok] at hb ⊢
        obtain ⟨a, ha, c, hc, rfl⟩ := hb
        rw [List.append_assoc, iht hp.1 hw.1 v hv.1 a ha, Out.bind_ok, ihf hp.2 hw.2 vs hv.2 c hc]
        rfl
      · simp only [if_true] at hb ⊢
        rw [ihf hp.2 hw.2 vs hv.2 b hb]
        rfl
  case h_vnil => exact fun _ h => nomatch h
  case h_vcons =>
    intro n g fs vs hf hv
    exact List.forall_mem_cons.mpr ⟨hf, hv⟩

def Inverts (g : Bytes → Out (Val × Bytes)) (f : Val → Tr) (c : Val → Val) (v : Val) : Prop :=
  (f v).Ok → ∀ rest, g ((f v).bytes ++ rest) = .ok (c v, rest)

/-- round trip at `t`, on the serializer's traces; the induction proves `Fwd` (`fwd_all`), and
`RT` follows by `RT_iff` -/
def RT (st : Bool) (t : Ty) : Prop :=
  ∀ v, HasTy t v = true → Inverts (de Rd.slice st t) (ser t) (canon t) v

theorem RT_iff (st : Bool) (t : Ty) : RT st t ↔ Fwd st t := by
  constructor
  · intro h v hv b hb rest
    obtain ⟨hok, rfl⟩ := (enc_ok_iff hv).mp hb
    exact h v hv hok rest
  · intro h v hv hok rest
    exact h v hv _ ((enc_ok_iff hv).mpr ⟨hok, rfl⟩) rest

theorem roundtrip_all (st : Bool) :
    ∀ t : Ty, keysOk t = true → WfTy t = true → RT st t :=
  fun t hp hw => (RT_iff st t).mpr (fwd_all st t hp hw)

theorem rt_set (st : Bool) (k : SetK) (t : Ty) (hkey : keyTy t = true) (ih : RT st t) :
    RT st (.set k t) :=
  (RT_iff ..).mpr (fwd_set st k t hkey ((RT_iff ..).mp ih))

theorem rt_map (st : Bool) (k : MapK) (kt vt : Ty) (hkey : keyTy kt = true)
    (ihk : RT st kt) (ihv : RT st vt) : RT st (.map k kt vt) :=
  (RT_iff ..).mpr (fwd_map st k kt vt hkey ((RT_iff ..).mp ihk) ((RT_iff ..).mp ihv))

theorem rt_indexSet (st : Bool) (t : Ty) (hkey : keyTy t = true) (hw : WfTy (.seq .indexSet t) = true)
    (ih : RT st t) : RT st (.seq .indexSet t) :=
  (RT_iff ..).mpr (fwd_seq st _ t (fun _ => hkey) hw ((RT_iff ..).mp ih))

theorem plain_keysOk : ∀ t : Ty, plain t = true → keysOk t = true := by
  apply Ty.induct_step (P := fun t => plain t = true → keysOk t = true)
    (PF := fun fs => plainFields fs = true → keysOkFields fs = true)
    (PV := fun vs => plainVariants vs = true → keysOkVariants vs = true)
  case step =>
    intro t ih
    fun_cases keysOk t
    next k t =>
      intro h
      obtain ⟨hk, ht⟩ := Bool.and_eq_true_iff.mp h
      exact Bool.and_eq_true_iff.mpr ⟨ih ht, Bool.or_eq_true_iff.mpr (.inl hk)⟩
    -- a plain type has no set and no map; below the other constructors `plain` asks what `keysOk` asks
    case case2 | case3 => exact fun h => nomatch h
    case case4 | case5 | case6 | case7 => exact ih
    next => exact fun _ => rfl
  case h_fnil => exact fun _ => rfl
  case h_fcons =>
    intro n s t fs iht ihf h
    obtain ⟨h1, h2⟩ := Bool.and_eq_true_iff.mp h
    exact Bool.and_eq_true_iff.mpr ⟨iht h1, ihf h2⟩
  case h_vnil => exact fun _ => rfl
  case h_vcons =>
    intro n g fs vs ihf ihv h
    obtain ⟨h1, h2⟩ := Bool.and_eq_true_iff.mp h
    exact Bool.and_eq_true_iff.mpr ⟨ihf h1, ihv h2⟩

theorem roundtrip_plain (st : Bool) :
    ∀ t : Ty, plain t = true → WfTy t = true → RT st t :=
  fun t hp hw => roundtrip_all st t (plain_keysOk t hp) hw

/-- elements written one by one or through the `u8` fast path read back through the matching path -/
theorem slice_roundtrip (st : Bool) (t : Ty) (ih : RT st t) (vs : List Val)
    (hvs : vs.all (HasTy t) = true)
    (hok : (if t.isU8 then Tr.emit (valBytes vs) else serMany (ser t) vs).Ok) (rest : Bytes) :
    (if t.isU8 then (Rd.slice.readBulk vs.length
          ((if t.isU8 then Tr.emit (valBytes vs) else serMany (ser t) vs).bytes ++ rest)).map
            fun q => (bytesVal q.1, q.2)
      else repeatDe (de Rd.slice st t) vs.length
          ((if t.isU8 then Tr.emit (valBytes vs) else serMany (ser t) vs).bytes ++ rest)) =
      .ok (vs.map (canon t), rest) := by
  have hb := Tr.toSpec_eq_ok.mpr ⟨hok, rfl⟩
  rw [slice_refines t (refines_all t) vs hvs] at hb
  have hd := repeatDe_dec vs (fun v hv => (RT_iff st t).mp ih v (List.all_eq_true.mp hvs v hv)) hb rest
  cases hu : t.isU8 <;> simp only [hu, if_true, if_false, Bool.false_eq_true] at hd ⊢
  · exact hd
  · cases isU8_eq hu
    rw [readBulk_eq_loop st]; exact hd

theorem u8_elems {vs : List Val} (h : vs.all (HasTy (.int .u8)) = true) :
    ∀ v ∈ vs, HasTy (.int .u8) v = true := List.all_eq_true.mp h

end Borsh
