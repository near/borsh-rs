/-
  Soundness of the specification maximum against the schema-only reader: whatever byte string
  the container lets a reader walk (`sdec`), the walk consumes at most `specMax` bytes — for
  every container, cycles and hostile widths included.  Together with `maxSize_exact` this makes
  a reported `max_serialized_size` an upper bound on every encoding the schema describes.
-/
import BorshModel.Lemmas.Nodes
import BorshModel.Lemmas.Walk
namespace Borsh

def WalkBound (f : Bytes → Option Bytes) (g : SpecSize) : Prop :=
  ∀ bs r, f bs = some r → r.length ≤ bs.length ∧ ∀ n, g = .fin n → bs.length ≤ r.length + n

/-- two steps in a row: `L` bytes, then `M`, then `R` -/
theorem bound_then {L M R a b : Nat} (b1 : L ≤ M + a) (b2 : M ≤ R + b) : L ≤ R + (a + b) := by omega

theorem listWith_bound {f : Name → Bytes → Option Bytes} {g : Name → SpecSize}
    (h : ∀ d, WalkBound (f d) (g d)) :
    ∀ ds : List Name, WalkBound (listWith f ds) (specSum g ds)
  | [], bs, r, hr => by
    cases hr
    exact ⟨Nat.le_refl _, fun n hn => by cases hn; exact Nat.le_refl _⟩
  | d :: ds, bs, r, hr => by
    obtain ⟨m, hm, hr'⟩ := Option.bind_eq_some_iff.mp hr
    obtain ⟨l1, b1⟩ := h d bs m hm
    obtain ⟨l2, b2⟩ := listWith_bound h ds m r hr'
    refine ⟨Nat.le_trans l2 l1, fun n hn => ?_⟩
    obtain ⟨a, ha, hn⟩ := SpecSize.bind_eq_fin hn
    obtain ⟨b, hb, hn⟩ := SpecSize.bind_eq_fin hn
    cases hn
    exact bound_then (b1 a ha) (b2 b hb)

theorem repeatWith_bound {f : Bytes → Option Bytes} {g : SpecSize} (h : WalkBound f g) :
    ∀ (k : Nat) (bs r : Bytes), repeatWith f k bs = some r →
      r.length ≤ bs.length ∧ ∀ n, g = .fin n → bs.length ≤ r.length + k * n
  | 0, bs, r, hr => by
    cases hr
    exact ⟨Nat.le_refl _, fun n _ => Nat.le_add_right _ _⟩
  | k + 1, bs, r, hr => by
    obtain ⟨m, hm, hr'⟩ := Option.bind_eq_some_iff.mp hr
    obtain ⟨l1, b1⟩ := h bs m hm
    obtain ⟨l2, b2⟩ := repeatWith_bound h k m r hr'
    refine ⟨Nat.le_trans l2 l1, fun n hn => ?_⟩
    rw [Nat.succ_mul, Nat.add_comm (k * n)]
    exact bound_then (b1 n hn) (b2 n hn)

theorem specMaxOf_fin {g : Name → SpecSize} :
    ∀ (es : List Name) (m : Nat), specMaxOf g es = .fin m →
      (∀ e ∈ es, ∃ a, g e = .fin a ∧ a ≤ m) ∧ (es ≠ [] → ∃ e ∈ es, g e = .fin m) := by
  intro es
  induction es with
  | nil => intro m _; exact ⟨nofun, fun h => absurd rfl h⟩
  | cons x xs ih =>
    intro m hm
    obtain ⟨a, ha, hm⟩ := SpecSize.bind_eq_fin hm
    obtain ⟨b, hb, hm⟩ := SpecSize.bind_eq_fin hm
    cases hm
    obtain ⟨hle, hat⟩ := ih b hb
    refine ⟨fun e he => ?_, fun _ => ?_⟩
    · rcases List.mem_cons.mp he with rfl | he
      · exact ⟨a, ha, Nat.le_max_left _ _⟩
      · exact (hle e he).imp fun _ h => ⟨h.1, Nat.le_trans h.2 (Nat.le_max_right _ _)⟩
    · by_cases hab : b ≤ a
      · exact ⟨x, .head _, by rw [ha, Nat.max_eq_left hab]⟩
      · -- `b` is not 0, so `xs` is not empty
        have hxs : xs ≠ [] := fun h => by subst h; cases hb; exact hab (Nat.zero_le a)
        obtain ⟨e, he, h⟩ := hat hxs
        exact ⟨e, .tail _ he, by rw [h, Nat.max_eq_right (Nat.le_of_not_le hab)]⟩

/-- lengths behind a head of `w` bytes: `L` before the head, `L'` behind it, `R` left over -/
theorem behind_head {L L' R w : Nat} (hl : L = w + L') (l : R ≤ L') : R ≤ L := by omega

theorem behind_head_le {L L' R w x y : Nat} (hl : L = w + L') (b : L' ≤ R + x) (hxy : x ≤ y) :
    L ≤ R + (w + y) := by omega

theorem walkNode_bound {r : Name → Bytes → Option Bytes} {g : Name → SpecSize}
    (h : ∀ e, WalkBound (r e) (g e)) (df : Defn) : WalkBound (walkNode r df) (specNode g df) := by
  intro bs res hr
  cases df with
  | primitive s =>
    obtain ⟨hle, hr⟩ := Option.ite_none_right_eq_some.mp hr
    cases hr
    rw [List.length_drop]
    exact ⟨Nat.sub_le _ _, fun n hn => by cases hn; rw [Nat.sub_add_cancel hle]; exact Nat.le_refl _⟩
  | tuple es | struct es => exact listWith_bound h _ bs res hr
  | «enum» tw vs =>
    obtain ⟨⟨e, bs'⟩, hp, hr⟩ := Option.bind_eq_some_iff.mp hr
    obtain ⟨he, hl⟩ := tagHead_some hp
    obtain ⟨l, b⟩ := h e bs' res hr
    refine ⟨behind_head hl l, fun n hn => ?_⟩
    obtain ⟨m, hm, hn⟩ := SpecSize.bind_eq_fin hn
    cases hn
    obtain ⟨a, ha, hle⟩ := (specMaxOf_fin _ m hm).1 e he
    exact behind_head_le hl (b a ha) hle
  | sequence lw lo hi e =>
    -- `k ≤ hi` elements behind a head of `lw` bytes
    obtain ⟨⟨k, bs'⟩, hp, hr⟩ := Option.bind_eq_some_iff.mp hr
    replace hr : repeatWith (r e) k bs' = some res := hr
    obtain ⟨_, hk, hl⟩ := seqHead_some hp
    obtain ⟨l, b⟩ := repeatWith_bound (h e) k bs' res hr
    refine ⟨behind_head hl l, fun n hn => ?_⟩
    simp only [specNode] at hn
    split at hn
    · cases hn
      obtain rfl : k = 0 := Nat.le_zero.mp (‹hi = 0› ▸ hk)
      cases hr
      exact Nat.le_of_eq (hl.trans (Nat.add_comm _ _))
    · obtain ⟨m, hm, hn⟩ := SpecSize.bind_eq_fin hn
      cases hn
      exact behind_head_le hl (b m hm) (Nat.mul_le_mul_right m hk)

theorem sdec_bound (c : Container) :
    ∀ (fs : Nat) (d : Name) (fm : Nat) (path : List Name),
      WalkBound (sdec c fs d) (specMax c fm d path) := by
  intro fs
  induction fs with
  | zero => intro d fm path bs r hr; cases hr
  | succ fs ih =>
    intro d fm path bs r hr
    obtain ⟨df, hg, hr⟩ := sdec_some hr
    -- `ih` holds for any fuel and path of `specMax`: take those that `specMax_step` yields below
    obtain ⟨l, b⟩ := walkNode_bound (fun e => ih e (fm - 1) (d :: path)) df bs r hr
    refine ⟨l, fun n hn => b n ?_⟩
    cases fm with
    | zero => cases hn
    | succ fm =>
      rw [specMax_step] at hn
      obtain ⟨df', _, hg', hn⟩ := guarded_eq hn nofun nofun
      cases hg.symm.trans hg'
      exact hn

end Borsh
