/- Everything defined per variant list is "look the variant up by index, then do the fields"
   (`variant_lookup`); the decoder looks it up by tag instead (`deVariants_hit`, `_ok`, `_miss`), and
   a check of a variant list holds of each member's fields (`variants_mem`). -/
import BorshModel.Canon
import BorshModel.Ser
import BorshModel.Spec
namespace Borsh

/-- a function given by the clauses "no variant; the first one; one of the others" looks the variant
up by its index -/
theorem variant_lookup {α : Type} {F : List Variant → Nat → List Val → α} {G : Variant → List Val → α}
    {d : α} (h0 : ∀ i fvs, F [] i fvs = d) (h1 : ∀ x vs fvs, F (x :: vs) 0 fvs = G x fvs)
    (h2 : ∀ x vs i fvs, F (x :: vs) (i + 1) fvs = F vs i fvs) (vs : List Variant) (idx : Nat)
    (fvs : List Val) :
    F vs idx fvs = match vs[idx]? with
      | some x => G x fvs
      | none => d := by
  induction vs generalizing idx with
  | nil => exact h0 idx fvs
  | cons x vs ih =>
    cases idx with
    | zero => exact h1 x vs fvs
    | succ i => exact (h2 x vs i fvs).trans (ih i)

theorem HasTyVariant_eq : ∀ (vs : List Variant) (idx : Nat) (fvs : List Val),
    HasTyVariant vs idx fvs = match vs[idx]? with
      | some x => HasTyFields x.2.2 fvs
      | none => false :=
  variant_lookup (fun _ _ => rfl) (fun _ _ _ => rfl) (fun _ _ _ _ => rfl)

theorem HasTyVariant_some {vs : List Variant} {idx : Nat} {fvs : List Val}
    (h : HasTyVariant vs idx fvs = true) : ∃ x, vs[idx]? = some x ∧ HasTyFields x.2.2 fvs = true := by
  rw [HasTyVariant_eq] at h
  split at h
  · exact ⟨_, ‹_›, h⟩
  · cases h

theorem serVariant_eq : ∀ (vs : List Variant) (idx : Nat) (fvs : List Val),
    serVariant vs idx fvs = match vs[idx]? with
      | some x => Tr.emit [UInt8.ofNat x.2.1] ▹ serFields x.2.2 fvs
      | none => illTyped :=
  variant_lookup (fun _ _ => rfl) (fun _ _ _ => rfl) (fun _ _ _ _ => rfl)

theorem encVariant_eq : ∀ (vs : List Variant) (idx : Nat) (fvs : List Val),
    Spec.encVariant vs idx fvs = match vs[idx]? with
      | some x => (do let b ← Spec.encFields x.2.2 fvs; pure (UInt8.ofNat x.2.1 :: b))
      | none => .error .illTyped :=
  variant_lookup (fun _ _ => rfl) (fun _ _ _ => rfl) (fun _ _ _ _ => rfl)

theorem canonVariant_eq : ∀ (vs : List Variant) (idx : Nat) (fvs : List Val),
    canonVariant vs idx fvs = match vs[idx]? with
      | some x => canonFields x.2.2 fvs
      | none => [] :=
  variant_lookup (fun _ _ => rfl) (fun _ _ _ => rfl) (fun _ _ _ _ => rfl)

/-- with pairwise distinct tags, the tag of the `idx`-th variant selects it -/
theorem deVariants_hit {σ : Type} (rd : Rd σ) (st : Bool) (tk : TagK) {vs : List Variant} {idx : Nat}
    {x : Variant} (base : Nat) (s : σ) (hnd : (variantTags vs).Nodup) (hx : vs[idx]? = some x) :
    deVariants rd st tk vs (UInt8.ofNat x.2.1) base s =
      (deFields rd st x.2.2 s).map fun r => (.variant (base + idx) r.1, r.2) := by
  induction vs generalizing idx base with
  | nil => cases hx
  | cons y vs ih =>
    obtain ⟨n, g, fs⟩ := y
    rw [deVariants]
    cases idx with
    | zero => cases hx; rw [if_pos (beq_self_eq_true _)]; rfl
    | succ i =>
      rw [variantTags, List.map_cons, List.nodup_cons] at hnd
      have hmem : UInt8.ofNat x.2.1 ∈ variantTags vs := List.mem_map_of_mem (List.mem_of_getElem? hx)
      have hne : ¬ (UInt8.ofNat g == UInt8.ofNat x.2.1) = true := fun h => hnd.1 (eq_of_beq h ▸ hmem)
      rw [if_neg hne, ih (base + 1) hnd.2 hx, Nat.add_right_comm, Nat.add_assoc]

theorem deVariants_ok {σ : Type} {rd : Rd σ} {st : Bool} {tk : TagK} {tag : UInt8} {s s' : σ} {v : Val}
    {vs : List Variant} {base : Nat} (h : deVariants rd st tk vs tag base s = .ok (v, s')) :
    ∃ idx x, vs[idx]? = some x ∧ UInt8.ofNat x.2.1 = tag ∧
      ∃ r, deFields rd st x.2.2 s = .ok (r, s') ∧ v = .variant (base + idx) r := by
  induction vs generalizing base with
  | nil => cases h
  | cons y vs ih =>
    obtain ⟨n, g, fs⟩ := y
    rw [deVariants] at h
    by_cases hg : (UInt8.ofNat g == tag) = true
    · rw [if_pos hg] at h
      obtain ⟨⟨r, _⟩, h1, h2⟩ := Out.map_eq_ok_iff.mp h
      cases h2
      exact ⟨0, (n, g, fs), rfl, eq_of_beq hg, r, h1, rfl⟩
    · rw [if_neg hg] at h
      obtain ⟨idx, x, hx, ht, r, hr, rfl⟩ := ih h
      exact ⟨idx + 1, x, hx, ht, r, hr, by rw [Nat.add_right_comm, Nat.add_assoc]⟩

theorem deVariants_miss {σ : Type} (rd : Rd σ) (st : Bool) (tk : TagK) {tag : UInt8} (s : σ) :
    ∀ (vs : List Variant) (idx : Nat), tag ∉ variantTags vs →
      deVariants rd st tk vs tag idx s = .err (eBadTag tk tag) := by
  intro vs
  induction vs with
  | nil => intro _ _; rfl
  | cons x vs ih =>
    intro idx h
    rw [variantTags, List.map_cons, List.mem_cons, not_or] at h
    rw [deVariants, if_neg fun hb => h.1 (eq_of_beq hb).symm]
    exact ih (idx + 1) h.2

theorem variants_mem {PV : List Variant → Bool} {PF : List Field → Bool}
    (hcons : ∀ n g fs vs, PV ((n, g, fs) :: vs) = (PF fs && PV vs))
    {vs : List Variant} (h : PV vs = true) : ∀ x ∈ vs, PF x.2.2 = true := by
  induction vs with
  | nil => exact fun _ hx => nomatch hx
  | cons y vs ih =>
    obtain ⟨h1, h2⟩ := Bool.and_eq_true_iff.mp ((hcons _ _ _ _).symm.trans h)
    exact List.forall_mem_cons.mpr ⟨h1, ih h2⟩

theorem keysOkVariants_mem {vs : List Variant} : keysOkVariants vs = true →
    ∀ x ∈ vs, keysOkFields x.2.2 = true := variants_mem fun _ _ _ _ => rfl

theorem WfVariants_mem {vs : List Variant} : WfVariants vs = true →
    ∀ x ∈ vs, WfFields x.2.2 = true := variants_mem fun _ _ _ _ => rfl

theorem revTyVariants_mem {vs : List Variant} : revTyVariants vs = true →
    ∀ x ∈ vs, revTyFields x.2.2 = true := variants_mem fun _ _ _ _ => rfl

end Borsh
