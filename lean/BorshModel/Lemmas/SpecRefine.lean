/- `ser` refines `Spec.enc`: equal bytes, or the same class of refusal (`refines_all`, read through
`Tr.toSpec`).  Before it, the specification's results taken apart: the `Spec.*_ok` iffs that Wire,
Roundtrip and Describes invert an encoding with, and `written_set_perm`, `written_map_perm`. -/
import BorshModel.Lemmas.Trace
import BorshModel.Lemmas.Clauses
import BorshModel.Lemmas.Induct
import BorshModel.Lemmas.Sort
import BorshModel.Lemmas.Variant
namespace Borsh

namespace Spec

theorem bind_eq_ok {x : R} {f : Bytes → R} {b : Bytes} :
    (x >>= f) = .ok b ↔ ∃ a, x = .ok a ∧ f a = .ok b := by
  cases x <;> simp [bind, Except.bind]

theorem pure_eq_ok {a b : Bytes} : (pure a : R) = .ok b ↔ b = a := by
  simp [pure, Except.pure, eq_comm]

theorem append_ok {x y : R} {b : Bytes} :
    (do let a ← x; let c ← y; pure (a ++ c)) = .ok b ↔
      ∃ a, x = .ok a ∧ ∃ c, y = .ok c ∧ b = a ++ c := by
  simp only [bind_eq_ok, pure_eq_ok]

theorem concat_cons_ok {x : R} {xs : List R} {b : Bytes} :
    concat (x :: xs) = .ok b ↔ ∃ a, x = .ok a ∧ ∃ c, concat xs = .ok c ∧ b = a ++ c :=
  append_ok

theorem count_ok {n : Nat} {b : Bytes} : count n = .ok b ↔ n < 2 ^ 32 ∧ b = u32le n := by
  unfold count u32le
  split <;> simp [*, eq_comm]

theorem sized_ok {z : Bool} {items : List R} {b : Bytes} :
    sized z items = .ok b ↔
      z = false ∧ items.length < 2 ^ 32 ∧ ∃ c, concat items = .ok c ∧ b = u32le items.length ++ c := by
  unfold sized
  cases z
  · simp only [Bool.false_eq_true, if_false, bind_eq_ok, pure_eq_ok, count_ok, true_and]
    constructor
    · rintro ⟨a, ⟨hl, rfl⟩, c, hc, rfl⟩; exact ⟨hl, c, hc, rfl⟩
    · rintro ⟨hl, c, hc, rfl⟩; exact ⟨_, ⟨hl, rfl⟩, c, hc, rfl⟩
  · simp

theorem enc_str_ok {k : StrK} {bs b : Bytes} :
    enc (.str k) (.blob bs) = .ok b ↔ bs.length < 2 ^ 32 ∧ b = u32le bs.length ++ bs := by
  simp only [enc, bind_eq_ok, count_ok, pure_eq_ok]
  exact ⟨fun ⟨_, ⟨hl, rfl⟩, h⟩ => ⟨hl, h⟩, fun ⟨hl, h⟩ => ⟨_, ⟨hl, rfl⟩, h⟩⟩

end Spec

theorem encVariant_ok {vs : List Variant} {idx : Nat} {fvs : List Val} {bs : Bytes}
    (hv : HasTyVariant vs idx fvs = true) (he : Spec.encVariant vs idx fvs = .ok bs) :
    ∃ w, vs[idx]? = some w ∧ HasTyFields w.2.2 fvs = true ∧
      ∃ b, Spec.encFields w.2.2 fvs = .ok b ∧ bs = UInt8.ofNat w.2.1 :: b := by
  obtain ⟨w, hw, hty⟩ := HasTyVariant_some hv
  rw [encVariant_eq, hw] at he
  obtain ⟨b, hb, he⟩ := Spec.bind_eq_ok.mp he
  exact ⟨w, hw, hty, b, hb, Spec.pure_eq_ok.mp he⟩

/-- what is written for a set or a map is a rearrangement of its members -/
theorem written_set_perm (k : SetK) (vs : List Val) :
    (match k with
      | .hashSet => sortByKey id vs
      | .btreeSet => vs).Perm vs := by
  cases k
  · exact perm_sortByKey id vs
  · exact .refl vs

theorem written_map_perm (k : MapK) (es : List Val) :
    (match k with
      | .hashMap => sortByKey entryKey es
      | _ => es).Perm es := by
  cases k
  · exact perm_sortByKey entryKey es
  · exact .refl es
  · exact .refl es

def Tr.toSpec (t : Tr) : Spec.R := (t.status.map fun _ => t.bytes).toSpec

theorem toVec_toSpec (t : Ty) (v : Val) : (toVec t v).toSpec = (ser t v).toSpec := rfl

theorem Out.toSpec_err (e : Err) : ∃ r, (Out.err e : Out Bytes).toSpec = .error r := by
  simp only [Out.toSpec]; split <;> exact ⟨_, rfl⟩

theorem Out.toSpec_eq_ok {o : Out Bytes} {b : Bytes} : o.toSpec = .ok b ↔ o = .ok b := by
  cases o with
  | ok a => exact ⟨fun h => by cases h; rfl, fun h => by cases h; rfl⟩
  | err e => obtain ⟨r, hr⟩ := Out.toSpec_err e; rw [hr]; exact ⟨nofun, nofun⟩
  | panic p => exact ⟨nofun, nofun⟩

theorem Tr.toSpec_eq_ok {t : Tr} {b : Bytes} : t.toSpec = .ok b ↔ t.Ok ∧ t.bytes = b := by
  rw [Tr.toSpec, Out.toSpec_eq_ok, Out.map_eq_ok_iff]
  exact ⟨fun ⟨(), h⟩ => h, fun h => ⟨(), h⟩⟩

@[simp] theorem Tr.done_toSpec : Tr.done.toSpec = .ok [] := rfl
@[simp] theorem Tr.emit_toSpec (bs : Bytes) : (Tr.emit bs).toSpec = .ok bs := by
  simp [Tr.toSpec, Tr.emit, Tr.bytes, Out.toSpec]

theorem Tr.andThen_toSpec (a b : Tr) :
    (a ▹ b).toSpec = (do let x ← a.toSpec; let y ← b.toSpec; pure (x ++ y)) := by
  obtain ⟨ca, sa⟩ := a
  obtain ⟨cb, sb⟩ := b
  cases sa with
  | ok u =>
    cases u
    cases sb with
    | ok u => cases u; exact congrArg Except.ok (List.flatten_append ..)
    | err e => obtain ⟨r, hr⟩ := Out.toSpec_err e; simp only [Tr.toSpec, Tr.andThen, Out.map_err, hr]; rfl
    | panic p => rfl
  | err e => obtain ⟨r, hr⟩ := Out.toSpec_err e; simp only [Tr.toSpec, Tr.andThen, Out.map_err, hr]; rfl
  | panic p => rfl

theorem serLen_toSpec (n : Nat) : (serLen n).toSpec = Spec.count n := by
  unfold serLen Spec.count
  split
  · simp [u32le]
  · simp [Tr.toSpec, Tr.fail, Out.toSpec, eLenOverflow]

theorem serMany_toSpec (f : Val → Tr) (vs : List Val) :
    (serMany f vs).toSpec = Spec.concat (vs.map fun v => (f v).toSpec) := by
  induction vs with
  | nil => simp [serMany, Spec.concat]
  | cons v vs ih => simp only [serMany, Tr.andThen_toSpec, ih, List.map_cons, Spec.concat]

theorem concat_append (a b : List Spec.R) :
    Spec.concat (a ++ b) = (do let x ← Spec.concat a; let y ← Spec.concat b; pure (x ++ y)) := by
  induction a with
  | nil =>
    show Spec.concat b = (pure [] >>= fun x => _)
    simp only [pure_bind, List.nil_append, bind_pure]
  | cons x xs ih => simp only [List.cons_append, Spec.concat, ih, bind_assoc, pure_bind, List.append_assoc]

theorem enc_u8 (i : Int) : Spec.enc (.int .u8) (.int i) = .ok [valByte (.int i)] :=
  congrArg (fun x => Except.ok [x]) UInt8.ofNat_mod_size

/-- the `u8` bulk path writes what the per-element specification says -/
theorem valBytes_concat (vs : List Val) (h : ∀ v ∈ vs, HasTy (.int .u8) v = true) :
    Spec.concat (vs.map (Spec.enc (.int .u8))) = .ok (valBytes vs) := by
  induction vs with
  | nil => rfl
  | cons v vs ih =>
    cases v with
    | int i =>
      rw [List.map_cons, Spec.concat, enc_u8, ih fun w hw => h w (.tail _ hw)]
      rfl
    | _ => cases h _ (.head _)

def Refines (t : Ty) : Prop := ∀ v, HasTy t v = true → (ser t v).toSpec = Spec.enc t v
def RefinesF (fs : List Field) : Prop :=
  ∀ vs, HasTyFields fs vs = true → (serFields fs vs).toSpec = Spec.encFields fs vs
def RefinesV (vs : List Variant) : Prop :=
  ∀ idx fvs, HasTyVariant vs idx fvs = true → (serVariant vs idx fvs).toSpec = Spec.encVariant vs idx fvs

theorem slice_refines (t : Ty) (ih : Refines t) (vs : List Val) (hall : vs.all (HasTy t) = true) :
    (if t.isU8 then Tr.emit (valBytes vs) else serMany (ser t) vs).toSpec =
      Spec.concat (vs.map (Spec.enc t)) := by
  by_cases hu : t.isU8 = true
  · have ht := isU8_eq hu
    subst ht
    simp only [Ty.isU8, if_true, Tr.emit_toSpec]
    exact (valBytes_concat vs (List.all_eq_true.mp hall)).symm
  · simp only [hu, Bool.false_eq_true, if_false, serMany_toSpec]
    exact congrArg Spec.concat (List.map_congr_left fun v hv => ih v (List.all_eq_true.mp hall v hv))

theorem sized_eq (n : Nat) (body : Tr) (items : List Spec.R) (hn : items.length = n)
    (hb : body.toSpec = Spec.concat items) :
    (serLen n ▹ body).toSpec = Spec.sized false items := by
  simp only [Tr.andThen_toSpec, serLen_toSpec, hb, Spec.sized, Bool.false_eq_true, if_false, hn]

theorem counted_refines {f : Val → Tr} {g : Val → Spec.R} (vs : List Val)
    (h : ∀ v ∈ vs, (f v).toSpec = g v) :
    (serLen vs.length ▹ serMany f vs).toSpec = Spec.sized false (vs.map g) :=
  sized_eq _ _ _ (List.length_map _) (by rw [serMany_toSpec, List.map_congr_left h])

/-- both sides refuse zero-sized elements before anything else -/
theorem zst_refines {z : Bool} {items : List Spec.R} {tr : Tr}
    (h : tr.toSpec = Spec.sized false items) :
    (if z then Tr.fail eZst else tr).toSpec = Spec.sized z items := by
  cases z
  · exact h
  · rfl

theorem entry_refines {kt vt : Ty} (iha : Refines kt) (ihb : Refines vt) {e : Val}
    (he : ∃ a b, e = .list [a, b] ∧ HasTy kt a = true ∧ HasTy vt b = true) :
    (serEntry (ser kt) (ser vt) e).toSpec = encEntry (Spec.enc kt) (Spec.enc vt) e := by
  obtain ⟨a, b, rfl, ha, hb⟩ := he
  rw [serEntry, Tr.andThen_toSpec, iha a ha, ihb b hb]
  rfl

/-- The proof follows the clauses of `HasTy`: they fix the shape of the value, and `ser` and
`Spec.enc` have a clause for each. -/
theorem refines_all : ∀ t : Ty, Refines t := by
  apply Ty.induct_step (P := Refines) (PF := RefinesF) (PV := RefinesV)
  case step =>
    intro t ih v
    fun_cases HasTy t v
    -- `int`, `nonzero`, `bool`, `asciiChar`, `raw`: one `emit` of the bytes the specification names
    -- (`Spec.int k.width i` is `encInt k i` by unfolding)
    case case1 | case2 | case4 | case7 | case8 => exact fun _ => Tr.emit_toSpec _
    next k b =>  -- `float`
      intro _
      simp only [ser, Spec.enc]
      split
      · rfl
      · exact Tr.emit_toSpec _
    case case5 | case6 =>  -- `str`, ASCII or UTF-8
      intro _
      simp only [ser, Spec.enc, Tr.andThen_toSpec, serLen_toSpec, Tr.emit_toSpec]
      rfl
    next k t vs =>  -- `seq`, a list
      intro hv
      simp only [Bool.and_eq_true] at hv
      simp only [ser, Spec.enc]
      apply zst_refines
      split
      · exact counted_refines vs fun v hv' => ih v (List.all_eq_true.mp hv.1.2 v hv')
      · exact sized_eq _ _ _ (List.length_map _) (slice_refines t ih vs hv.1.2)
    next k t a b =>  -- `seq`, a deque
      intro hv
      simp only [Bool.and_eq_true] at hv
      simp only [ser, Spec.enc]
      apply zst_refines
      rw [Tr.andThen_assoc]
      apply sized_eq _ _ _ (by simp)
      rw [Tr.andThen_toSpec, slice_refines t ih a hv.1.2, slice_refines t ih b hv.2, List.map_append,
        concat_append]
    next k t vs =>  -- `set`
      intro hv
      simp only [Bool.and_eq_true] at hv
      simp only [ser, Spec.enc]
      exact zst_refines (counted_refines _ fun v hv' =>
        ih v (List.all_eq_true.mp hv.1 v ((written_set_perm k vs).subset hv')))
    next k kt vt es =>  -- `map`
      intro hv
      simp only [Bool.and_eq_true] at hv
      rw [enc_map]
      simp only [ser]
      exact zst_refines (counted_refines _ fun e he =>
        entry_refines ih.1 ih.2 (entry_pair (List.all_eq_true.mp hv.1 e ((written_map_perm k es).subset he))))
    next n t vs =>  -- `array`
      intro hv
      simp only [Bool.and_eq_true, beq_iff_eq] at hv
      simp only [ser, Spec.enc]
      split
      · rename_i h0
        rw [List.eq_nil_of_length_eq_zero (hv.1.trans (eq_of_beq h0))]; rfl
      · exact slice_refines t ih vs hv.2
    next k fs vs => exact ih vs  -- `prod`
    next k vs idx fvs => exact ih idx fvs  -- `sum`
    next k t => rw [ser, Spec.enc]; exact ih v  -- `wrap`
    next t => intro _; cases v <;> rfl  -- `custom`
    next => exact nofun  -- no clause of `HasTy`
  case h_fnil =>
    intro vs hv
    cases vs with
    | nil => rfl
    | cons => cases hv
  case h_fcons =>
    intro n sk t fs iht ihf vs hv
    cases vs with
    | nil => cases hv
    | cons v vs =>
      simp only [HasTyFields, Bool.and_eq_true] at hv
      simp only [serFields, Spec.encFields]
      cases sk
      · simp only [Bool.false_eq_true, if_false, Tr.andThen_toSpec, iht v hv.1, ihf vs hv.2]
      · exact ihf vs hv.2
  case h_vnil => exact nofun
  case h_vcons =>
    intro n g fs vs ihf ihv idx fvs hv
    cases idx with
    | zero => simp only [serVariant, Spec.encVariant, Tr.andThen_toSpec, Tr.emit_toSpec, ihf fvs hv]; rfl
    | succ i => exact ihv i fvs hv

theorem enc_ok_iff {t : Ty} {v : Val} (hv : HasTy t v = true) {b : Bytes} :
    Spec.enc t v = .ok b ↔ (ser t v).Ok ∧ (ser t v).bytes = b := by
  rw [← refines_all t v hv]; exact Tr.toSpec_eq_ok

theorem toVec_ok_iff_enc {t : Ty} {v : Val} (hv : HasTy t v = true) {b : Bytes} :
    toVec t v = .ok b ↔ Spec.enc t v = .ok b := by
  rw [← refines_all t v hv, ← toVec_toSpec]; exact Out.toSpec_eq_ok.symm

/-- the per-element path on `u8` writes the same bytes as the bulk path -/
theorem serMany_u8_bytes (vs : List Val) (h : ∀ v ∈ vs, HasTy (.int .u8) v = true) :
    (serMany (ser (.int .u8)) vs).Ok ∧ (serMany (ser (.int .u8)) vs).bytes = valBytes vs := by
  rw [← Tr.toSpec_eq_ok, serMany_toSpec, List.map_congr_left fun v hv => refines_all _ v (h v hv)]
  exact valBytes_concat vs h

end Borsh
