/-
  Extension of the input: the slice decoder never looks ahead.  If decoding `p` succeeds
  leaving `r`, decoding `p ++ s` succeeds with the same value leaving `r ++ s` (`Ext`); if it
  fails with anything but the unexpected-length error, it fails in exactly the same way on
  `p ++ s` (`ErrExt`).  Consequence (C16): on a proper prefix of a valid encoding the only possible
  error is the unexpected-length one — every other cause would also reject the full encoding.
-/
import BorshModel.Lemmas.SliceRd
import BorshModel.Lemmas.DeRel
namespace Borsh

def Ext {α : Type} (f : Bytes → Out (α × Bytes)) : Prop :=
  ∀ p a r s, f p = .ok (a, r) → f (p ++ s) = .ok (a, r ++ s)

theorem Ext.pure {α : Type} (a : α) : Ext (fun p => Out.ok (a, p)) := by
  intro p a' r s h; cases h; rfl

theorem Ext.err {α : Type} (e : Err) : Ext (fun _ => (Out.err e : Out (α × Bytes))) :=
  fun _ _ _ _ h => nomatch h

theorem Ext.bind {α β : Type} {f : Bytes → Out (α × Bytes)} {g : α → Bytes → Out (β × Bytes)}
    (hf : Ext f) (hg : ∀ a, Ext (g a)) : Ext (fun p => (f p).bindS g) := by
  intro p b r s h
  obtain ⟨⟨a, r1⟩, h1, h2⟩ := Out.bind_eq_ok_iff.mp h
  show (f (p ++ s)).bind _ = _
  rw [hf p a r1 s h1]
  exact hg a r1 b r s h2

theorem Ext.ite {α : Type} {f g : Bytes → Out (α × Bytes)} (c : Bool) (hf : Ext f) (hg : Ext g) :
    Ext (fun p => if c then f p else g p) := by
  cases c <;> simpa

theorem readBulk_ext (n : Nat) : Ext (Rd.slice.readBulk n) := by
  intro p a r s h
  obtain ⟨hl, rfl⟩ := readBulk_ok.mp h
  exact readBulk_ok.mpr ⟨hl, List.append_assoc ..⟩

def ErrExt {α : Type} (f : Bytes → Out (α × Bytes)) : Prop :=
  ∀ p e s, f p = .err e → e ≠ eUnexpectedLength → f (p ++ s) = .err e

theorem ErrExt.pure {α : Type} (a : α) : ErrExt (fun p => Out.ok (a, p)) := by
  intro p e s h; cases h

theorem ErrExt.err {α : Type} (e : Err) : ErrExt (fun _ => (Out.err e : Out (α × Bytes))) := by
  intro p e' s h _; exact h

theorem ErrExt.bind {α β : Type} {f : Bytes → Out (α × Bytes)} {g : α → Bytes → Out (β × Bytes)}
    (hfe : Ext f) (hf : ErrExt f) (hg : ∀ a, ErrExt (g a)) : ErrExt (fun p => (f p).bindS g) := by
  intro p e s h hne
  change (f p).bind _ = _ at h
  show (f (p ++ s)).bind _ = _
  cases h1 : f p <;> rw [h1] at h
  · rw [hfe p _ _ s h1]
    exact hg _ _ e s h hne
  · cases h
    rw [hf p e s h1 hne]; rfl
  · cases h

theorem readBulk_errext (n : Nat) : ErrExt (Rd.slice.readBulk n) := by
  intro p e s h hne
  exfalso
  rw [slice_readBulk] at h
  split at h
  · cases h
  · simp only [Out.err.injEq] at h; exact hne h.symm

theorem slice_extRel : DePred (fun f => Ext f ∧ ErrExt f) Rd.slice where
  pure a := ⟨Ext.pure a, ErrExt.pure a⟩
  err e _ := ⟨Ext.err e, ErrExt.err e⟩
  bind hf hk := ⟨Ext.bind hf.1 fun a => (hk a).1, ErrExt.bind hf.1 hf.2 fun a => (hk a).2⟩
  mapped n := readMapped_eq_readBulk n ▸ ⟨readBulk_ext n, readBulk_errext n⟩
  u8 := ⟨fun p a r s h => by rw [readU8_ok] at h ⊢; rw [h]; rfl,
    fun p e s h hne => by rw [readU8_slice] at h; cases p <;> cases h; exact absurd rfl hne⟩
  bulk n := ⟨readBulk_ext n, readBulk_errext n⟩

theorem de_ext_all :
    ∀ t : Ty, ∀ st, Ext (de Rd.slice st t) :=
  fun t st => (de_rel_st slice_extRel st t).1

theorem de_errext_all :
    ∀ t : Ty, ∀ st, ErrExt (de Rd.slice st t) :=
  fun t st => (de_rel_st slice_extRel st t).2

end Borsh
