/-
  `Bnd` over field and variant lists says something of every member, and it speaks of the container
  only through single look-ups, so it survives whatever is added to the container.
-/
import BorshModel.SchemaWalk
import BorshModel.Lemmas.Induct
namespace Borsh

variable {c c' : Container}

theorem bndFields_iff : ∀ {fs : List Field}, BndFields c fs ↔ ∀ f ∈ fs, Bnd c f.2.2
  | [] => ⟨fun _ _ h => (nomatch h), fun _ => trivial⟩
  | (_, _, _) :: fs => by rw [BndFields, List.forall_mem_cons, bndFields_iff (fs := fs)]

theorem bndKept_iff : ∀ {fs : List Field}, BndKept c fs ↔ ∀ f ∈ fs, f.2.1 = true ∨ Bnd c f.2.2
  | [] => ⟨fun _ _ h => (nomatch h), fun _ => trivial⟩
  | (_, _, _) :: fs => by rw [BndKept, List.forall_mem_cons, bndKept_iff (fs := fs)]

theorem bndVariants_iff : ∀ {vs : List Variant}, BndVariants c vs ↔ ∀ v ∈ vs, BndFields c v.2.2
  | [] => ⟨fun _ _ h => (nomatch h), fun _ => trivial⟩
  | (_, _, _) :: vs => by rw [BndVariants, List.forall_mem_cons, bndVariants_iff (vs := vs)]

theorem bndInner_iff {d : Name} : ∀ {vs : List Variant}, BndInner c d vs ↔
    ∀ v ∈ vs, c.get (d ++ v.1) = some (.struct (schemaFields v.2.2)) ∧ BndKept c v.2.2
  | [] => ⟨fun _ _ h => (nomatch h), fun _ => trivial⟩
  | (_, _, _) :: vs => by rw [BndInner, List.forall_mem_cons, bndInner_iff (vs := vs)]

theorem bndFields_kept (c : Container) (fs : List Field) (h : BndFields c fs) : BndKept c fs :=
  bndKept_iff.mpr fun f hf => .inr (bndFields_iff.mp h f hf)

theorem bndVariants_kept (c : Container) (vs : List Variant) (h : BndVariants c vs) :
    ∀ v ∈ vs, BndKept c v.2.2 :=
  fun v hv => bndFields_kept c _ (bndVariants_iff.mp h v hv)

/-- every string type is a `Vec`-like sequence of a one-byte primitive (`u8` or `AsciiChar`) -/
theorem bnd_str (k : StrK) : ∃ e, ∀ c, Bnd c (.str k) ↔
    c.get (declOf (.str k)) = some (defaultSeq e) ∧ c.get e = some (.primitive 1) := by
  cases k <;> exact ⟨_, fun _ => Iff.rfl⟩

/-- declarations of the fields that are on the wire -/
def keptDecls (fs : List Field) : List Name := (fs.filter fun f => !f.2.1).map fun f => declOf f.2.2

theorem keptDecls_noSkip : ∀ fs : List Field, noSkip fs = true → keptDecls fs = declOfFields fs
  | [], _ => rfl
  | (_, true, _) :: _, h => nomatch h
  | (_, false, t) :: fs, h => congrArg (declOf t :: ·) (keptDecls_noSkip fs h)

theorem schemaFields_decls (fs : List Field) : (schemaFields fs).decls = keptDecls fs := by
  unfold schemaFields keptDecls
  cases hk : fs.filter (fun f => !f.2.1) with
  | nil => simp [Fields.decls]
  | cons f rest =>
    obtain ⟨n, sk, t⟩ := f
    cases n with
    | none => simp [Fields.decls]
    | some nm => simp [Fields.decls, List.map_map, Function.comp]

theorem zip_names_decls (ds : List Name) (a b : Name) (h : ds.length = 2) :
    (Fields.named ((ds.zip [a, b]).map fun p => (p.2, p.1))).decls = ds := by
  match ds, h with
  | [x, y], _ => rfl

theorem declOfFields_length : ∀ fs : List Field, (declOfFields fs).length = fs.length
  | [] => rfl
  | (_, _, _) :: fs => congrArg (· + 1) (declOfFields_length fs)

/-- what a bound product declaration is defined as: the unit primitive, or a tuple or struct that
lists the fields on the wire -/
theorem bnd_prod {k : ProdK} {fs : List Field} (hs : shapeOk (.prod k fs) = true)
    (hb : Bnd c (.prod k fs)) :
    BndKept c fs ∧
    ((fs = [] ∧ c.get (declOf (.prod k fs)) = some (.primitive 0)) ∨
      c.get (declOf (.prod k fs)) = some (.tuple (keptDecls fs)) ∨
      ∃ F : Fields, c.get (declOf (.prod k fs)) = some (.struct F) ∧ F.decls = keptDecls fs) := by
  have hk := (both hs).1
  cases k with
  | tuple => exact ⟨bndFields_kept c fs hb.2, .inr (.inl (keptDecls_noSkip fs hk ▸ hb.1))⟩
  | unit | phantom =>
    cases List.isEmpty_iff.mp hk
    exact ⟨trivial, .inl ⟨rfl, hb⟩⟩
  | rangeFull =>
    cases List.isEmpty_iff.mp hk
    exact ⟨trivial, .inr (.inr ⟨_, hb, rfl⟩)⟩
  | range | rangeInclusive =>
    exact ⟨bndFields_kept c fs hb.2, .inr (.inr ⟨_, hb.1, by
      rw [zip_names_decls _ _ _ (by rw [declOfFields_length]; exact beq_iff_eq.mp (both hk).2),
        keptDecls_noSkip fs (both hk).1]⟩)⟩
  | rangeFrom | rangeTo | rangeToInclusive =>
    exact ⟨bndFields_kept c fs hb.2, .inr (.inr ⟨_, hb.1, by
      rw [Fields.decls, List.map_map, keptDecls_noSkip fs hk]; exact List.map_id'' (fun _ => rfl) _⟩)⟩
  | sockV4 | sockV6 => cases hk
  | struct name i => exact ⟨hb.2, .inr (.inr ⟨_, hb.1, schemaFields_decls fs⟩)⟩

def DSub (get get' : Name → Option Defn) : Prop := ∀ x y, get x = some y → get' x = some y

theorem DSub.refl (a : Name → Option Defn) : DSub a a := fun _ _ h => h

theorem DSub.trans {a b c : Name → Option Defn} (h1 : DSub a b) (h2 : DSub b c) : DSub a c :=
  fun x y h => h2 x y (h1 x y h)

theorem BndFields.imp {fs : List Field} (h : ∀ f ∈ fs, Bnd c f.2.2 → Bnd c' f.2.2)
    (hb : BndFields c fs) : BndFields c' fs :=
  bndFields_iff.mpr fun f hf => h f hf (bndFields_iff.mp hb f hf)

theorem BndKept.imp {fs : List Field} (h : ∀ f ∈ fs, Bnd c f.2.2 → Bnd c' f.2.2)
    (hb : BndKept c fs) : BndKept c' fs :=
  bndKept_iff.mpr fun f hf => (bndKept_iff.mp hb f hf).imp id (h f hf)

theorem BndVariants.imp {vs : List Variant} (h : ∀ v ∈ vs, ∀ f ∈ v.2.2, Bnd c f.2.2 → Bnd c' f.2.2)
    (hb : BndVariants c vs) : BndVariants c' vs :=
  bndVariants_iff.mpr fun v hv => (bndVariants_iff.mp hb v hv).imp (h v hv)

theorem BndInner.imp {vs : List Variant} {d : Name} (hg : DSub c.get c'.get)
    (h : ∀ v ∈ vs, ∀ f ∈ v.2.2, Bnd c f.2.2 → Bnd c' f.2.2) (hb : BndInner c d vs) : BndInner c' d vs :=
  bndInner_iff.mpr fun v hv => (bndInner_iff.mp hb v hv).imp (hg _ _) (.imp (h v hv))

theorem Bnd_mono (h : DSub c.get c'.get) : ∀ t : Ty, Bnd c t → Bnd c' t := by
  apply Ty.induct' (P := fun t => Bnd c t → Bnd c' t)
    (PF := fun fs => ∀ f ∈ fs, Bnd c f.2.2 → Bnd c' f.2.2)
  case h_int | h_nonzero | h_float => exact fun k hb => h _ _ hb
  case h_bool | h_asciiChar => exact fun hb => h _ _ hb
  case h_str =>
    intro k hb
    obtain ⟨e, he⟩ := bnd_str k
    exact (he c').mpr (((he c).mp hb).imp (h _ _) (h _ _))
  case h_raw => exact fun k hb => ⟨h _ _ hb.1, h _ _ hb.2.1, h _ _ hb.2.2⟩
  case h_seq | h_set | h_array => exact fun k t ih hb => ⟨h _ _ hb.1, ih hb.2⟩
  case h_map => exact fun k a b iha ihb hb => ⟨h _ _ hb.1, h _ _ hb.2.1, iha hb.2.2.1, ihb hb.2.2.2⟩
  case h_wrap => exact fun k t ih hb => ih hb
  case h_custom => exact fun t ih hb => ih hb
  case h_prod =>
    intro k fs ih hb
    cases k with
    | tuple | range | rangeInclusive | rangeFrom | rangeTo | rangeToInclusive | struct =>
      exact ⟨h _ _ hb.1, .imp ih hb.2⟩
    | unit | phantom | rangeFull => exact h _ _ hb
    | sockV4 | sockV6 => exact hb
  case h_sum =>
    intro k vs ih hb
    cases k with
    | option => exact ⟨h _ _ hb.1, .imp ih hb.2.1, h _ _ hb.2.2⟩
    | result =>
      refine ⟨?_, .imp ih hb.2⟩
      have h1 := hb.1
      split at h1
      · exact h _ _ h1
      · exact h1
    | ipAddr | derived => exact ⟨.imp h ih hb.1, h _ _ hb.2⟩
    | sockAddr => exact hb
  case h_fnil => exact fun _ hf => nomatch hf
  case h_fcons =>
    intro n s t fs iht ihf f hf
    rcases List.mem_cons.mp hf with rfl | hf
    · exact iht
    · exact ihf f hf

end Borsh
