/-
  The definition map of a schema container: look-up (`dget`), ascending order of the names
  (`DSorted`), and `add_definition` as an insertion that keeps the order and every binding
  (`insertDef_spec`).
-/
import BorshModel.Lemmas.Bnd
import BorshModel.Lemmas.OrdLaws
import BorshModel.Lemmas.Res
namespace Borsh

def dget (m : Defs) (d : Name) : Option Defn := (m.find? fun e => e.1 == d).map (·.2)

theorem Container.get_mk (r : Name) (m : Defs) (d : Name) : (Container.mk r m).get d = dget m d := rfl

theorem dget_cons (k : Name) (v : Defn) (rest : Defs) (x : Name) :
    dget ((k, v) :: rest) x = if k == x then some v else dget rest x := by
  unfold dget
  simp only [List.find?_cons]
  cases h : k == x <;> simp

theorem dget_cons_self (k : Name) (v : Defn) (rest : Defs) : dget ((k, v) :: rest) k = some v := by
  rw [dget_cons, if_pos (beq_self_eq_true k)]

theorem dget_cons_ne {k x : Name} (h : k ≠ x) (v : Defn) (rest : Defs) :
    dget ((k, v) :: rest) x = dget rest x := by
  rw [dget_cons, if_neg (mt beq_iff_eq.mp h)]

def DSorted (m : Defs) : Prop := m.Pairwise fun a b => cmpBytes a.1 b.1 = .lt

theorem ne_of_cmp_lt {a b : Name} (h : cmpBytes a b = .lt) : a ≠ b :=
  fun e => by rw [(cmpBytes_eq a b).mpr e] at h; cases h

theorem dget_none_of_below {d : Name} : ∀ (m : Defs), (∀ e ∈ m, cmpBytes d e.1 = .lt) → dget m d = none
  | [], _ => rfl
  | (k, v) :: rest, h => by
    rw [dget_cons_ne (ne_of_cmp_lt (h (k, v) List.mem_cons_self)).symm]
    exact dget_none_of_below rest fun e he => h e (List.mem_cons_of_mem _ he)

theorem insertDef_spec {d : Name} {df : Defn} : ∀ {m m' : Defs}, DSorted m → insertDef d df m = .ok m' →
    DSorted m' ∧ dget m' d = some df ∧ DSub (dget m) (dget m') ∧ (∀ e ∈ m', e = (d, df) ∨ e ∈ m)
  | [], m', _, h => by
    cases h
    exact ⟨List.pairwise_singleton _ _, dget_cons_self .., fun _ _ hx => (nomatch hx),
      fun e he => .inl (List.mem_singleton.mp he)⟩
  | (k, v) :: rest, m', hs, h => by
    obtain ⟨hk, hrest⟩ := List.pairwise_cons.mp hs
    rw [insertDef] at h
    cases hc : cmpBytes d k with
    | lt =>
      -- `d` goes in front: it is below every key, so it was not bound
      simp only [hc] at h
      cases h
      have hbelow : ∀ e ∈ (k, v) :: rest, cmpBytes d e.1 = .lt := fun e he => by
        rcases List.mem_cons.mp he with rfl | he
        · exact hc
        · exact cmpBytes_trans d k e.1 hc (hk e he)
      refine ⟨List.pairwise_cons.mpr ⟨hbelow, hs⟩, dget_cons_self .., fun x y hx => ?_,
        fun e he => (List.mem_cons.mp he).imp id id⟩
      rw [dget_cons_ne fun e => ?_]
      · exact hx
      · rw [← e, dget_none_of_below _ hbelow] at hx; cases hx
    | eq =>
      -- `d` is the head: the same definition, or the redefinition panic
      simp only [hc] at h
      cases (cmpBytes_eq d k).mp hc
      split at h
      · cases h
        subst ‹v = df›
        exact ⟨hs, dget_cons_self .., fun _ _ hx => hx, fun _ he => .inr he⟩
      · cases h
    | gt =>
      -- `d` goes into the tail, and is above the head
      simp only [hc] at h
      obtain ⟨r, hr, h⟩ := Res.bind_eq_ok h
      cases h
      obtain ⟨hsr, hgd, hsub, hmem⟩ := insertDef_spec hrest hr
      have hkd : cmpBytes k d = .lt := by rw [cmpBytes_swap, hc]; rfl
      refine ⟨List.pairwise_cons.mpr ⟨fun e he => ?_, hsr⟩, ?_, fun x y hx => ?_, fun e he => ?_⟩
      · rcases hmem e he with rfl | he
        · exact hkd
        · exact hk e he
      · rw [dget_cons_ne (ne_of_cmp_lt hkd)]; exact hgd
      · rw [dget_cons] at hx ⊢
        split
        · rwa [if_pos ‹_›] at hx
        · rw [if_neg ‹_›] at hx; exact hsub x y hx
      · rcases List.mem_cons.mp he with rfl | he
        · exact .inr List.mem_cons_self
        · exact (hmem e he).imp id (List.mem_cons_of_mem _)

theorem defsContain_iff (m : Defs) (d : Name) : defsContain m d = true ↔ ∃ e ∈ m, e.1 = d := by
  simp only [defsContain, List.any_eq_true, beq_iff_eq]

theorem defsContain_of_insert {d x : Name} {df : Defn} {m m' : Defs} (hs : DSorted m)
    (h : insertDef d df m = .ok m') (hc : defsContain m' x = true) : x = d ∨ defsContain m x = true := by
  obtain ⟨e, he, rfl⟩ := (defsContain_iff m' x).mp hc
  exact ((insertDef_spec hs h).2.2.2 e he).imp (congrArg Prod.fst) fun he =>
    (defsContain_iff m _).mpr ⟨e, he, rfl⟩

end Borsh
