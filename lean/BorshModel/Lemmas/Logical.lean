/-
  C03, the general statement: `Eqv t v w` — the two representations `v`, `w` denote the same
  logical value of type `t` (same members of every hash set / hash map whatever the iteration
  order, same run of a deque whatever the ring-buffer split, anything at all in skipped fields),
  at any nesting depth.  `eqv_enc`: logically equal representations have the same specification
  encoding; with `refines_all` they get the same bytes from the implementation.
-/
import BorshModel.Lemmas.SpecRefine
import BorshModel.Lemmas.SortLaws
namespace Borsh

/-- elementwise relation of two lists of the same length -/
def All₂ (r : Val → Val → Prop) : List Val → List Val → Prop
  | [], [] => True
  | a :: as, b :: bs => r a b ∧ All₂ r as bs
  | _, _ => False

/-- two map entries: the same key object, related values -/
def entryRel (rv : Val → Val → Prop) : Val → Val → Prop
  | .list [a, b], .list [a', b'] => a = a' ∧ rv b b'
  | _, _ => False

/-- `ws` lists exactly the members of `vs` (both without repeated keys), in any order -/
def SameMembers (key : Val → Val) (vs ws : List Val) : Prop :=
  distinctKeys key vs = true ∧ distinctKeys key ws = true ∧ ∀ x, x ∈ vs ↔ x ∈ ws

mutual
def Eqv : Ty → Val → Val → Prop
  | .seq _ t, .list vs, .list ws => All₂ (Eqv t) vs ws
  | .seq _ t, .deque a b, .deque c d => All₂ (Eqv t) (a ++ b) (c ++ d)
  | .set k _, .list vs, .list ws =>
    match k with
    | .hashSet => SameMembers id vs ws           -- iteration order is not part of the value
    | .btreeSet => vs = ws
  | .map k _ vt, .list es, .list fs =>
    match k with
    -- `es'`: the values are related first, entry by entry, and then the entries permuted
    | .hashMap => ∃ es', All₂ (entryRel (Eqv vt)) es es' ∧ SameMembers entryKey es' fs
    | _ => All₂ (entryRel (Eqv vt)) es fs
  | .array _ t, .list vs, .list ws => All₂ (Eqv t) vs ws
  | .prod _ fs, .list vs, .list ws => EqvFields fs vs ws
  | .sum _ vs, .variant i a, .variant j b => i = j ∧ EqvVariant vs i a b
  | .wrap _ t, v, w => Eqv t v w
  | _, v, w => v = w
/-- non-skipped fields are related; a skipped field is not part of the logical value -/
def EqvFields : List (Option Name × Bool × Ty) → List Val → List Val → Prop
  | [], [], [] => True
  | (_, skip, t) :: fs, v :: vs, w :: ws => (skip = true ∨ Eqv t v w) ∧ EqvFields fs vs ws
  | _, _, _ => False
def EqvVariant : List (Name × Nat × List (Option Name × Bool × Ty)) → Nat → List Val → List Val → Prop
  | [], _, _, _ => False
  | (_, _, fs) :: _, 0, a, b => EqvFields fs a b
  | _ :: vs, i+1, a, b => EqvVariant vs i a b
end

theorem All₂.map_eq {α : Type} {r : Val → Val → Prop} {f : Val → α}
    (h : ∀ v w, r v w → f v = f w) : ∀ vs ws, All₂ r vs ws → vs.map f = ws.map f := by
  intro vs ws
  fun_induction All₂ r vs ws with
  | case1 => exact fun _ => rfl
  | case2 a as b bs ih => exact fun hab => by rw [List.map_cons, List.map_cons, h a b hab.1, ih hab.2]
  | case3 => exact nofun

theorem All₂.length_eq {r : Val → Val → Prop} : ∀ vs ws, All₂ r vs ws → vs.length = ws.length := by
  intro vs ws
  fun_induction All₂ r vs ws with
  | case1 => exact fun _ => rfl
  | case2 a as b bs ih => exact fun hab => congrArg Nat.succ (ih hab.2)
  | case3 => exact nofun

theorem All₂.insertSorted {r : Val → Val → Prop} {key : Val → Val}
    (hk : ∀ v w, r v w → key v = key w) {x x' : Val} (hx : r x x') :
    ∀ l l', All₂ r l l' → All₂ r (insertSorted key x l) (insertSorted key x' l') := by
  intro l l'
  fun_induction All₂ r l l' with
  | case1 => exact fun _ => ⟨hx, trivial⟩
  | case2 y ys y' ys' ih =>
    intro h
    rw [Borsh.insertSorted, Borsh.insertSorted, keyLt, keyLt, hk x x' hx, hk y y' h.1]
    split
    · exact ⟨hx, h⟩
    · exact ⟨h.1, ih h.2⟩
  | case3 => exact nofun

theorem All₂.sortByKey {r : Val → Val → Prop} {key : Val → Val}
    (hk : ∀ v w, r v w → key v = key w) :
    ∀ l l', All₂ r l l' → All₂ r (sortByKey key l) (sortByKey key l') := by
  intro l l'
  fun_induction All₂ r l l' with
  | case1 => exact id
  | case2 y ys y' ys' ih => exact fun h => All₂.insertSorted hk h.1 _ _ (ih h.2)
  | case3 => exact nofun

theorem All₂.refl_of {r : Val → Val → Prop} : ∀ vs : List Val, (∀ v ∈ vs, r v v) → All₂ r vs vs
  | [], _ => trivial
  | v :: vs, h => ⟨h v (.head _), All₂.refl_of vs fun x hx => h x (.tail _ hx)⟩

theorem entryRel_pair {rv : Val → Val → Prop} {e f : Val} (h : entryRel rv e f) :
    ∃ a b b', e = .list [a, b] ∧ f = .list [a, b'] ∧ rv b b' := by
  unfold entryRel at h
  split at h
  · obtain ⟨rfl, hb⟩ := h
    exact ⟨_, _, _, rfl, rfl, hb⟩
  · exact h.elim

theorem entryRel_key {rv : Val → Val → Prop} (v w : Val) (h : entryRel rv v w) :
    entryKey v = entryKey w := by
  obtain ⟨a, b, b', rfl, rfl, _⟩ := entryRel_pair h
  rfl

def EncEq (t : Ty) : Prop := ∀ v w, Eqv t v w → Spec.enc t v = Spec.enc t w
def EncEqF (fs : List Field) : Prop := ∀ vs ws, EqvFields fs vs ws → Spec.encFields fs vs = Spec.encFields fs ws
def EncEqV (vs : List Variant) : Prop :=
  ∀ i a b, EqvVariant vs i a b → Spec.encVariant vs i a = Spec.encVariant vs i b

theorem entry_enc {kt vt : Ty} (ih : EncEq vt) (e f : Val) (h : entryRel (Eqv vt) e f) :
    encEntry (Spec.enc kt) (Spec.enc vt) e = encEntry (Spec.enc kt) (Spec.enc vt) f := by
  obtain ⟨a, b, b', rfl, rfl, hb⟩ := entryRel_pair h
  rw [encEntry, encEntry, ih b b' hb]

/-- The proof follows the clauses of `Eqv`; under its last clause `v = w`. -/
theorem eqv_enc : ∀ t : Ty, EncEq t := by
  apply Ty.induct_step (P := EncEq) (PF := EncEqF) (PV := EncEqV)
  case step =>
    intro t ih v w
    fun_cases Eqv t v w
    next k t vs ws => intro h; simp only [Spec.enc, All₂.map_eq ih vs ws h]  -- `seq`, lists
    next k t a b c d => intro h; simp only [Spec.enc, All₂.map_eq ih _ _ h]  -- `seq`, deques
    -- `set`: `hashSet`, then `btreeSet`
    next t vs ws => rintro ⟨h1, h2, h3⟩; simp only [Spec.enc, sortByKey_perm_invariant id vs ws h1 h2 h3]
    next t vs ws => rintro rfl; rfl
    next kt vt es fs =>  -- `map`, `hashMap`
      rintro ⟨es', h1, h2, h3, h4⟩
      have hs := All₂.sortByKey (key := entryKey) entryRel_key es es' h1
      rw [sortByKey_perm_invariant entryKey es' fs h2 h3 h4] at hs
      rw [enc_map, enc_map]
      exact congrArg (Spec.sized _) (All₂.map_eq (entry_enc ih.2) _ _ hs)
    next k kt vt es fs hk =>  -- `map`, the other kinds
      intro h
      cases k with
      | hashMap => exact absurd rfl hk
      | _ =>
        rw [enc_map, enc_map]
        exact congrArg (Spec.sized _) (All₂.map_eq (entry_enc ih.2) _ _ h)
    next n t vs ws => intro h; simp only [Spec.enc, All₂.map_eq ih vs ws h]  -- `array`
    next k fs vs ws => intro h; simp only [Spec.enc, ih vs ws h]  -- `prod`
    next k vs i a j b => rintro ⟨rfl, h⟩; simp only [Spec.enc, ih i a b h]  -- `sum`
    next k t => intro h; rw [Spec.enc, Spec.enc]; exact ih v w h  -- `wrap`
    next => rintro rfl; rfl  -- the last clause
  case h_fnil =>
    intro vs ws h
    cases vs with
    | nil => cases ws with | nil => rfl | cons => cases h
    | cons => cases h
  case h_fcons =>
    intro n s t fs iht ihf vs ws h
    cases vs with
    | nil => cases h
    | cons v vs => cases ws with
      | nil => cases h
      | cons w ws =>
        obtain ⟨hl, hr⟩ := h
        simp only [Spec.encFields, ihf vs ws hr]
        cases s with
        | true => rfl
        | false => rw [iht v w (hl.resolve_left nofun)]
  case h_vnil => exact nofun
  case h_vcons =>
    intro n g fs vs ihf ihv i a b h
    cases i with
    | zero => simp only [Spec.encVariant, ihf a b h]
    | succ i => simp only [Spec.encVariant, ihv i a b h]

/-! ### every well-typed representation is logically equal to itself (the distinctness side
conditions of `Eqv` are those of the typing) -/

theorem entries_refl {kt vt : Ty} (ih : ∀ v, HasTy vt v = true → Eqv vt v v) (es : List Val)
    (h : (es.all fun e => match e with
      | .list [a, b] => HasTy kt a && HasTy vt b
      | _ => false) = true) : All₂ (entryRel (Eqv vt)) es es :=
  All₂.refl_of es fun e he => by
    obtain ⟨a, b, rfl, _, hb⟩ := entry_pair (List.all_eq_true.mp h e he)
    exact ⟨rfl, ih b hb⟩

def EqvRefl (t : Ty) : Prop := ∀ v, HasTy t v = true → Eqv t v v
def EqvReflF (fs : List Field) : Prop := ∀ vs, HasTyFields fs vs = true → EqvFields fs vs vs
def EqvReflV (vs : List Variant) : Prop := ∀ i a, HasTyVariant vs i a = true → EqvVariant vs i a a

theorem eqv_refl : ∀ t : Ty, EqvRefl t := by
  apply Ty.induct_step (P := EqvRefl) (PF := EqvReflF) (PV := EqvReflV)
  case step =>
    intro t ih v
    fun_cases HasTy t v
    -- `int`, `nonzero`, `float`, `bool`, `str` (twice), `asciiChar`, `raw`, `custom`: at these types
    -- `Eqv` is equality
    case case1 | case2 | case3 | case4 | case5 | case6 | case7 | case8 | case17 => exact fun _ => rfl
    next k t vs =>  -- `seq`, a list
      intro hv
      simp only [Bool.and_eq_true] at hv
      exact All₂.refl_of vs fun x hx => ih x (List.all_eq_true.mp hv.1.2 x hx)
    next k t a b =>  -- `seq`, a deque
      intro hv
      simp only [Bool.and_eq_true] at hv
      exact All₂.refl_of _ fun x hx =>
        (List.mem_append.mp hx).elim (ih x ∘ List.all_eq_true.mp hv.1.2 x) (ih x ∘ List.all_eq_true.mp hv.2 x)
    next k t vs =>  -- `set`
      intro hv
      simp only [Bool.and_eq_true] at hv
      cases k
      · show SameMembers id vs vs
        exact ⟨hv.2, hv.2, fun _ => Iff.rfl⟩
      · exact rfl
    next k kt vt es =>  -- `map`
      intro hv
      simp only [Bool.and_eq_true] at hv
      have hes := entries_refl ih.2 es hv.1
      cases k
      · exact ⟨es, hes, hv.2, hv.2, fun _ => Iff.rfl⟩
      · exact hes
      · exact hes
    next n t vs =>  -- `array`
      intro hv
      simp only [Bool.and_eq_true] at hv
      exact All₂.refl_of vs fun x hx => ih x (List.all_eq_true.mp hv.2 x hx)
    next k fs vs => exact ih vs  -- `prod`
    next k vs i a => exact fun hv => ⟨rfl, ih i a hv⟩  -- `sum`
    next k t => exact ih v  -- `wrap`
    next => exact nofun  -- no clause of `HasTy`
  case h_fnil =>
    intro vs hv
    cases vs with
    | nil => trivial
    | cons => cases hv
  case h_fcons =>
    intro n s t fs iht ihf vs hv
    cases vs with
    | nil => cases hv
    | cons v vs =>
      simp only [HasTyFields, Bool.and_eq_true] at hv
      exact ⟨.inr (iht v hv.1), ihf vs hv.2⟩
  case h_vnil => exact nofun
  case h_vcons =>
    intro n g fs vs ihf ihv i a hv
    cases i with
    | zero => exact ihf a hv
    | succ i => exact ihv i a hv

end Borsh
