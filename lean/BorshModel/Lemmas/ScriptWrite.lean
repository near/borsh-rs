/-
  The scripted writer in closed form: `write_all` delivers its buffer completely however the
  writer splits or interrupts writes, and when the writer stops at offset `k` exactly the
  bytes before `k` have been delivered and the stop's own error comes back.
-/
import BorshModel.Lemmas.ScriptRead
namespace Borsh

def stopErr : Stop → Err
  | .fail k id => userErr k id
  | .zero => eWriteZero

structure Delivered (w w' : WState) (bs : Bytes) : Prop where
  delivered : w'.delivered = w.delivered ++ bs
  intr : totalPending w'.intr ≤ totalPending w.intr

theorem scriptWrite_intr {sc : Script} {buf : Bytes} {w : WState}
    (h : 0 < pendingAt w.intr w.delivered.length) :
    scriptWrite sc buf w = .err ⟨.interrupted, .simple⟩ := by
  unfold scriptWrite; exact if_pos h

theorem scriptWrite_stop {sc : Script} {buf : Bytes} {w : WState} {st : Stop}
    (hp : ¬ 0 < pendingAt w.intr w.delivered.length) (hs : sc.stop = some (w.delivered.length, st)) :
    scriptWrite sc buf w = match st with
      | .zero => .ok (0, w)
      | .fail k id => .err (userErr k id) := by
  unfold scriptWrite; simp only [if_neg hp, hs, beq_self_eq_true, if_true]
  cases st <;> rfl

theorem scriptWrite_ok {sc : Script} {buf : Bytes} {w : WState}
    (hp : ¬ 0 < pendingAt w.intr w.delivered.length)
    (hs : ∀ st, sc.stop ≠ some (w.delivered.length, st)) :
    scriptWrite sc buf w = .ok (xferLen sc w.intr w.delivered.length buf.length,
      { w with delivered := w.delivered ++ buf.take (xferLen sc w.intr w.delivered.length buf.length) }) := by
  unfold scriptWrite; simp only [if_neg hp]
  split
  · rename_i so st h
    split
    · rename_i he; exact absurd (eq_of_beq he ▸ h) (hs st)
    · rfl
  · rfl

theorem scriptWrite_delivers {sc : Script} {buf : Bytes} {w w' : WState} {n : Nat}
    (h : scriptWrite sc buf w = .ok (n, w')) :
    n ≤ buf.length ∧ w'.delivered = w.delivered ++ buf.take n := by
  by_cases hp : 0 < pendingAt w.intr w.delivered.length
  · rw [scriptWrite_intr hp] at h; cases h
  · by_cases hat : ∃ st, sc.stop = some (w.delivered.length, st)
    · obtain ⟨st, hs⟩ := hat
      rw [scriptWrite_stop hp hs] at h
      cases st <;> cases h
      exact ⟨Nat.zero_le _, (List.append_nil _).symm⟩
    · rw [scriptWrite_ok hp fun st hs => hat ⟨st, hs⟩] at h
      cases h
      exact ⟨xferLen_le sc _ _ _, rfl⟩

/-- the only place where the writer can stop is offset `K`, and then a `write_all` ends with `E` -/
structure WHorizon (sc : Script) (K : Nat) (E : Err) : Prop where
  stop : ∀ k st, sc.stop = some (k, st) → k = K ∧ stopErr st = E
  -- `write_all` retries on `Interrupted`: a stop of that kind would be retried until the fuel runs out
  kind : E.kind ≠ .interrupted

/-- Without a stop the buffer must fit: then `K` is only a bound. -/
theorem writeAllLoop_upTo {sc : Script} {K : Nat} {E : Err} (hor : WHorizon sc K E) :
    ∀ (fuel : Nat) (buf : Bytes) (w : WState) (room : Nat),
      buf.length + totalPending w.intr < fuel → w.delivered.length + room = K →
      (buf.length ≤ room ∨ sc.stop.isSome) →
      ∃ w', writeAllLoop sc fuel buf w = (w', if buf.length ≤ room then .ok () else .err E) ∧
        Delivered w w' (buf.take room) := by
  intro fuel
  induction fuel with
  | zero => intro _ _ _ h; exact absurd h (Nat.not_lt_zero _)
  | succ fuel ih =>
    intro buf w room hf hK hfit
    by_cases hb : buf = []
    · subst hb
      exact ⟨w, (if_pos (Nat.zero_le room)).symm ▸ rfl, by rw [List.take_nil, List.append_nil], Nat.le_refl _⟩
    have hbl : 0 < buf.length := List.length_pos_iff.mpr hb
    rw [writeAllLoop, if_neg (by rwa [List.isEmpty_iff])]
    by_cases hp : 0 < pendingAt w.intr w.delivered.length
    · have hcons : totalPending (afterIntrW w).intr + 1 = totalPending w.intr :=
        consumeIntr_total w.intr w.delivered.length hp
      obtain ⟨w', h1, h2⟩ := ih buf (afterIntrW w) room
        (Nat.lt_of_succ_lt_succ (by rw [← hcons] at hf; exact hf)) hK hfit
      rw [scriptWrite_intr hp]
      exact ⟨w', h1, h2.delivered, Nat.le_trans h2.intr (hcons ▸ Nat.le_succ _)⟩
    · by_cases hat : ∃ st, sc.stop = some (w.delivered.length, st)
      · -- the writer stops right here: no room
        obtain ⟨st, hs⟩ := hat
        obtain ⟨hk, he⟩ := hor.stop _ _ hs
        obtain rfl : room = 0 := Nat.add_left_cancel (hK.trans hk.symm)
        rw [scriptWrite_stop hp hs, if_neg (Nat.not_le_of_lt hbl), List.take_zero, ← he]
        refine ⟨w, ?_, (List.append_nil _).symm, Nat.le_refl _⟩
        cases st with
        | zero => rfl
        | fail kd id =>
          exact if_neg (show ¬ (stopErr (.fail kd id)).kind = Kind.interrupted from he ▸ hor.kind)
      · have hs : ∀ st, sc.stop ≠ some (w.delivered.length, st) := fun st h => hat ⟨st, h⟩
        rw [scriptWrite_ok hp hs]
        have hn0 := xferLen_pos sc w.intr w.delivered.length hbl
        have hnb := xferLen_le sc w.intr w.delivered.length buf.length
        -- a transfer never crosses the horizon
        obtain ⟨room', rfl⟩ : ∃ room', room = xferLen sc w.intr w.delivered.length buf.length + room' := by
          refine Nat.exists_eq_add_of_le ?_
          cases hst : sc.stop with
          | none => rw [hst] at hfit; exact Nat.le_trans hnb (hfit.resolve_right nofun)
          | some ks =>
            obtain ⟨hk, _⟩ := hor.stop ks.1 ks.2 hst
            have hlt : w.delivered.length < K :=
              Nat.lt_of_le_of_ne (hK ▸ Nat.le_add_right _ _) fun e => hs ks.2 (e ▸ hk ▸ hst)
            rw [← Nat.add_sub_cancel_left (n := w.delivered.length) (m := room), hK]
            exact xferLen_stop sc w.intr w.delivered.length K buf.length ks.2 (hk ▸ hst) hlt
        generalize xferLen sc w.intr w.delivered.length buf.length = n at hn0 hnb hK hfit ⊢
        have hfits : (buf.drop n).length ≤ room' ↔ buf.length ≤ n + room' := by
          rw [List.length_drop]; exact Nat.sub_le_iff_le_add'
        obtain ⟨w', h1, h2⟩ := ih (buf.drop n) { w with delivered := w.delivered ++ buf.take n } room'
          (by rw [List.length_drop]
              exact Nat.lt_of_lt_of_le (Nat.add_lt_add_right (Nat.sub_lt hbl hn0) _) (Nat.le_of_lt_succ hf))
          (by rw [List.length_append, List.length_take_of_le hnb, Nat.add_assoc]; exact hK)
          (hfit.imp_left hfits.mpr)
        simp only [show (n == 0) = false from beq_false_of_ne (Nat.ne_of_gt hn0), Bool.false_eq_true,
          if_false]
        refine ⟨w', ?_, ?_, h2.intr⟩
        · rw [h1]; simp only [hfits]
        · rw [h2.delivered, List.append_assoc, List.take_add]

theorem runTrace_upTo {sc : Script} {K : Nat} {E : Err} (hor : WHorizon sc K E) :
    ∀ (cs : List Bytes) (status : Out Unit) (w : WState) (room : Nat), w.delivered.length + room = K →
      (cs.flatten.length ≤ room ∨ sc.stop.isSome) →
      ∃ w', runTrace sc cs status w = (w', if cs.flatten.length ≤ room then status else .err E) ∧
        w'.delivered = w.delivered ++ cs.flatten.take room := by
  intro cs
  induction cs with
  | nil =>
    intro status w room _ _
    exact ⟨w, (if_pos (Nat.zero_le room)).symm ▸ rfl, by rw [List.flatten_nil, List.take_nil, List.append_nil]⟩
  | cons c cs ih =>
    intro status w room hK hfit
    rw [List.flatten_cons, List.length_append] at hfit ⊢
    have hpre : c.length + cs.flatten.length ≤ room → c.length ≤ room := Nat.le_trans (Nat.le_add_right _ _)
    obtain ⟨w1, h1, h2⟩ := writeAllLoop_upTo hor _ c w room (Nat.lt_succ_self _) hK (hfit.imp_left hpre)
    rw [runTrace, writeAll, h1]
    by_cases hc : c.length ≤ room
    · obtain ⟨room', rfl⟩ := Nat.exists_eq_add_of_le hc
      have hd : w1.delivered = w.delivered ++ c := by
        rw [h2.delivered, List.take_of_length_le hc]
      obtain ⟨w', h3, h4⟩ := ih status w1 room'
        (by rw [hd, List.length_append, Nat.add_assoc]; exact hK)
        (hfit.imp_left Nat.le_of_add_le_add_left)
      rw [if_pos hc]
      refine ⟨w', ?_, ?_⟩
      · show runTrace sc cs status w1 = _
        rw [h3]; simp only [Nat.add_le_add_iff_left]
      · rw [h4, hd, List.append_assoc, List.take_length_add_append]
    · rw [if_neg hc, if_neg fun h => hc (hpre h)]
      exact ⟨w1, rfl, by rw [h2.delivered, List.take_append_of_le_length (Nat.le_of_lt (Nat.lt_of_not_le hc))]⟩

theorem WHorizon.of_stop {sc : Script} {k : Nat} {st : Stop}
    (hkind : ∀ k kd id, sc.stop = some (k, .fail kd id) → kd ≠ .interrupted)
    (hs : sc.stop = some (k, st)) : WHorizon sc k (stopErr st) := by
  refine ⟨fun k' st' h => ?_, ?_⟩
  · rw [hs] at h; cases h; exact ⟨rfl, rfl⟩
  · cases st with
    | zero => decide
    | fail kd id => exact hkind k kd id hs

theorem toWriterScript_upTo {sc : Script} {K : Nat} {E : Err} (hor : WHorizon sc K E)
    (intr : List (Nat × Nat)) (t : Ty) (v : Val)
    (hfit : (ser t v).bytes.length ≤ K ∨ sc.stop.isSome) :
    ∃ w', toWriterScript sc intr t v =
        (w', if (ser t v).bytes.length ≤ K then (ser t v).status else .err E) ∧
      w'.delivered = (ser t v).bytes.take K :=
  runTrace_upTo hor (ser t v).chunks (ser t v).status ⟨[], intr⟩ K (Nat.zero_add K) hfit

end Borsh
