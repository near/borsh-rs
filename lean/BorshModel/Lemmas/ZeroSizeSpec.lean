/-
  `is_zero_size` (a depth-first search with a stack of declarations, which reports `Recursion` on a
  cycle) against the declarative zero-sizedness `ZeroSized` (a finite derivation exists):
  it answers `Ok(true)` exactly on the zero-sized declarations.
  The notions: `ZeroSized`, `zsH` (ValidateSpec) are the declarative predicate and its depth-indexed form;
  `zsRule` is one round of the rules over any child predicate; `zsNode` (Nodes) is one level of the
  implementation; `zeroBy`, `zeroSet` (ValidateSpec) are what the driver runs, and no theorem mentions them.
-/
import BorshModel.Lemmas.Fuel
import BorshModel.Lemmas.Totality
namespace Borsh

def zsRule (P : Name → Prop) (df : Defn) : Prop :=
  match df with
  | .primitive s => s = 0
  | .sequence lw lo hi e => lw = 0 ∧ ((lo = hi ∧ lo = 0) ∨ P e)
  | .enum tw _ => tw = 0 ∧ ∀ e ∈ df.children, P e
  | _ => ∀ e ∈ df.children, P e

theorem zsRule_mono {P Q : Name → Prop} {df : Defn} (h : ∀ e, P e → Q e) :
    zsRule P df → zsRule Q df := by
  cases df with
  | primitive s => exact id
  | sequence lw lo hi e => exact fun hr => ⟨hr.1, hr.2.imp id (h e)⟩
  | «enum» tw vs => exact fun hr => ⟨hr.1, fun e he => h e (hr.2 e he)⟩
  | tuple es | struct es => exact fun hr e he => h e (hr e he)

theorem zsH_step (c : Container) (h : Nat) (d : Name) :
    zsH c (h + 1) d = true ↔ ∃ df, c.get d = some df ∧ zsRule (fun e => zsH c h e = true) df := by
  rw [zsH]
  cases c.get d with
  | none => simp
  | some df =>
    simp only [Option.some.injEq, exists_eq_left']
    cases df with
    | primitive s => exact beq_iff_eq
    | sequence lw lo hi e => simp only [zsRule, Bool.and_eq_true, Bool.or_eq_true, beq_iff_eq]
    | «enum» tw vs => simp only [zsRule, Defn.children, Bool.and_eq_true, beq_iff_eq, List.all_eq_true]
    | tuple es | struct es => exact List.all_eq_true

theorem allWith_true_iff {f : Name → Res ZsErr Bool} :
    ∀ es : List Name, allWith f es = .ok true ↔ ∀ e ∈ es, f e = .ok true
  | [] => by simp [allWith]
  | x :: es => by
    rw [allWith, List.forall_mem_cons, ← allWith_true_iff es]
    cases f x with
    | ok b => cases b <;> simp [Res.bind]
    | error e => simp [Res.bind]
    | panic p => simp [Res.bind]

theorem zsNode_true_iff {r : Name → Res ZsErr Bool} {df : Defn} :
    zsNode r df = .ok true ↔ zsRule (fun e => r e = .ok true) df := by
  cases df with
  | primitive s => simp only [zsNode, zsRule, Res.ok.injEq, beq_iff_eq]
  | sequence lw lo hi e =>
    simp only [zsNode, zsRule, Bool.and_eq_true, beq_iff_eq]
    split
    · split
      · exact iff_of_true rfl ⟨‹_›, .inl ‹_›⟩
      · exact ⟨fun h => ⟨‹_›, .inr h⟩, fun h => h.2.resolve_left ‹_›⟩
    · exact iff_of_false (by simp) fun h => absurd h.1 ‹_›
  | «enum» tw vs =>
    simp only [zsNode, zsRule, Defn.children, beq_iff_eq]
    split
    · exact (allWith_true_iff _).trans (and_iff_right ‹_›).symm
    · exact iff_of_false (by simp) fun h => absurd h.1 ‹_›
  | tuple es | struct es => exact allWith_true_iff _

theorem zsH_succ (c : Container) : ∀ (h : Nat) (d : Name), zsH c h d = true → zsH c (h + 1) d = true := by
  intro h
  induction h with
  | zero => intro d hd; cases hd
  | succ h ih =>
    intro d hd
    rw [zsH_step] at hd ⊢
    obtain ⟨df, hg, hr⟩ := hd
    exact ⟨df, hg, zsRule_mono (fun e => ih e) hr⟩

theorem zsH_mono (c : Container) {h k : Nat} (hk : h ≤ k) (d : Name) (hd : zsH c h d = true) :
    zsH c k d = true :=
  mono_of_succ (fun h => zsH_succ c h d) hk hd

theorem zsH_minimal (c : Container) : ∀ (h : Nat) (d : Name), zsH c h d = true →
    ∃ k, k < h ∧ zsH c (k + 1) d = true ∧ zsH c k d = false := by
  intro h
  induction h with
  | zero => intro d hd; cases hd
  | succ h ih =>
    intro d hd
    cases hp : zsH c h d with
    | true =>
      obtain ⟨k, hk, h1, h2⟩ := ih d hp
      exact ⟨k, Nat.lt_succ_of_lt hk, h1, h2⟩
    | false => exact ⟨h, Nat.lt_succ_self h, hd, hp⟩

theorem isZeroSize_sound (c : Container) : ∀ (fuel : Nat) (d : Name) (path : List Name),
    isZeroSize c fuel d path = .ok true → zsH c fuel d = true := by
  intro fuel
  induction fuel with
  | zero => intro d path h; cases h
  | succ fuel ih =>
    intro d path h
    rw [isZeroSize_step] at h
    obtain ⟨df, _, hg, hn⟩ := guarded_eq h nofun nofun
    exact (zsH_step c fuel d).mpr
      ⟨df, hg, zsRule_mono (fun e => ih e (d :: path)) (zsNode_true_iff.mp hn)⟩

/-- completeness: on a declaration whose least derivation depth is `h + 1`, with a stack of
declarations none of which is derivable at that depth, the search answers `Ok(true)` — it never
meets its own stack, because a derivation never passes through the same name twice -/
theorem isZeroSize_complete (c : Container) : ∀ (h : Nat) (d : Name) (path : List Name) (fuel : Nat),
    zsH c (h + 1) d = true → zsH c h d = false → (∀ x ∈ path, zsH c (h + 1) x = false) →
    Fueled c fuel path → isZeroSize c fuel d path = .ok true := by
  intro h
  induction h using Nat.strongRecOn with
  | _ h ih =>
    intro d path fuel h1 h0 hpath hf
    obtain ⟨fuel, rfl⟩ := hf.succ
    obtain ⟨df, hg, hr⟩ := (zsH_step c h d).mp h1
    have hnot : path.contains d = false :=
      Bool.eq_false_iff.mpr fun hc => by rw [hpath d (List.contains_iff_mem.mp hc)] at h1; cases h1
    rw [isZeroSize_step, guarded_of hnot hg]
    refine zsNode_true_iff.mpr (zsRule_mono (fun e he => ?_) hr)
    -- a child derivable at depth `h` is found, at its least depth, under the longer stack
    obtain ⟨k, hk, hk1, hk0⟩ := zsH_minimal c h e he
    refine ih k hk e (d :: path) fuel hk1 hk0 (fun x hx => Bool.eq_false_iff.mpr fun hz => ?_)
      (hf.cons hnot hg)
    have h2 := zsH_mono c hk x hz
    rcases List.mem_cons.mp hx with rfl | hx
    · rw [h0] at h2; cases h2
    · have h3 := zsH_succ c h x h2
      rw [hpath x hx] at h3; cases h3

theorem isZeroSize_iff (c : Container) (d : Name) :
    isZeroSize c (c.defs.length + 1) d [] = .ok true ↔ ZeroSized c d := by
  constructor
  · intro h; exact ⟨_, isZeroSize_sound c _ d [] h⟩
  · rintro ⟨h, hd⟩
    obtain ⟨k, _, hk1, hk0⟩ := zsH_minimal c h d hd
    exact isZeroSize_complete c k d [] _ hk1 hk0 (fun _ hx => absurd hx List.not_mem_nil) (.nil c)

end Borsh
