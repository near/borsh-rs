/- `encInt` / `decInt` are mutually inverse on the range of the kind: two's complement at the
   modulus `256 ^ width`, argued once for every width. -/
import BorshModel.Typing
namespace Borsh

@[simp] theorem encInt_length (k : IntK) (i : Int) : (encInt k i).length = k.width :=
  leBytes_length _ _

theorem pow256_cast (w : Nat) : (256 : Int) ^ w = ((256 ^ w : Nat) : Int) := rfl

theorem IntK.modulus_even (k : IntK) : 256 ^ k.width = 2 * (256 ^ k.width / 2) := by
  obtain ⟨w, hw⟩ : ∃ w, k.width = w + 1 := by cases k <;> exact ⟨_, rfl⟩
  rw [hw, Nat.pow_succ]; omega

theorem intInRange_iff {k : IntK} {i : Int} : intInRange k i = true ↔
    if k.signed then -((256 ^ k.width / 2 : Nat) : Int) ≤ i ∧ i < (256 ^ k.width / 2 : Nat)
    else 0 ≤ i ∧ i < (256 ^ k.width : Nat) := by
  unfold intInRange
  rw [pow256_cast]
  split <;> simp only [Bool.and_eq_true, decide_eq_true_eq, Int.natCast_ediv] <;> rfl

theorem decInt_encInt (k : IntK) (i : Int) (h : intInRange k i = true) :
    decInt k (encInt k i) = i := by
  rw [intInRange_iff] at h
  unfold decInt encInt
  rw [ofLe_leBytes, pow256_cast]
  have hM := k.modulus_even
  generalize 256 ^ k.width = M at *
  generalize k.signed = s at *
  dsimp only
  cases s
  · -- unsigned: `i` is its own residue
    obtain ⟨n, rfl⟩ := Int.eq_ofNat_of_zero_le h.1
    rw [Int.emod_eq_of_lt h.1 h.2, Int.toNat_natCast, Nat.mod_eq_of_lt (Int.ofNat_lt.mp h.2),
      if_neg nofun]
  · simp only [if_true, true_and] at h ⊢
    by_cases h0 : 0 ≤ i
    · -- signed, not negative: its own residue, in the lower half
      obtain ⟨n, rfl⟩ := Int.eq_ofNat_of_zero_le h0
      have hn : n < M / 2 := Int.ofNat_lt.mp h.2
      have hnM : n < M := Nat.lt_of_lt_of_le hn (Nat.div_le_self M 2)
      rw [Int.emod_eq_of_lt h0 (Int.ofNat_lt.mpr hnM), Int.toNat_natCast, Nat.mod_eq_of_lt hnM,
        if_neg (Nat.not_le.mpr hn)]
    · -- signed, negative: the residue is `i + M`, in the upper half
      obtain ⟨n, hn⟩ := Int.eq_ofNat_of_zero_le (a := i + M) (by omega)
      obtain ⟨hnM, hup⟩ : n < M ∧ M / 2 ≤ n := by omega
      rw [← Int.add_emod_right, hn, Int.emod_eq_of_lt (Int.natCast_nonneg _) (Int.ofNat_lt.mpr hnM),
        Int.toNat_natCast, Nat.mod_eq_of_lt hnM, if_pos hup, ← hn, Int.add_sub_cancel]

theorem encInt_decInt (k : IntK) (bs : Bytes) (h : bs.length = k.width) :
    intInRange k (decInt k bs) = true ∧ encInt k (decInt k bs) = bs := by
  have hlt := ofLe_lt bs
  have hle := leBytes_ofLe bs
  rw [h] at hlt hle
  rw [intInRange_iff]
  unfold decInt encInt
  rw [pow256_cast]
  have hM := k.modulus_even
  generalize ofLe bs = n at *
  generalize 256 ^ k.width = M at *
  have hn : 0 ≤ (n : Int) ∧ (n : Int) < M := ⟨Int.natCast_nonneg n, Int.ofNat_lt.mpr hlt⟩
  -- `n` and `n - M` have the residue `n`
  have key : ∀ D : Int, D = n ∨ D = n - M → leBytes k.width (D % (M : Int)).toNat = bs := by
    rintro D (rfl | rfl)
    · rw [Int.emod_eq_of_lt hn.1 hn.2, Int.toNat_natCast]; exact hle
    · rw [Int.sub_emod_right, Int.emod_eq_of_lt hn.1 hn.2, Int.toNat_natCast]; exact hle
  generalize k.signed = s
  dsimp only
  cases s <;> simp only [Bool.false_eq_true, if_false, if_true, false_and, true_and]
  · exact ⟨hn, key _ (.inl rfl)⟩
  · split
    · exact ⟨by omega, key _ (.inr rfl)⟩
    · exact ⟨by omega, key _ (.inl rfl)⟩

end Borsh
