/-
  A Hoare-style reading of slice decoders with the consumed bytes as a ghost: `Took p x φ` says
  that `x`, computed from the input `p`, if it succeeds leaves a suffix of `p`, and that `φ` holds
  of its value and of the bytes taken off the front.  `Reads f φ` is `Took p (f p) φ` at every `p`;
  "whatever `g` accepts is an encoding `e v` of the value returned" is `Reads g fun v c => e v = .ok c`.
  The rules are stated for `Took`, one input at a time: a clause of the decoder then matches them as
  it stands, and the rule for `bind` hands the postcondition on to the continuation, so that none has
  to be invented in between.
-/
import BorshModel.Lemmas.SliceRd
namespace Borsh

def Took {α : Type} (p : Bytes) (x : Out (α × Bytes)) (φ : α → Bytes → Prop) : Prop :=
  ∀ a rest, x = .ok (a, rest) → ∃ c, p = c ++ rest ∧ φ a c

def Reads {α : Type} (f : Bytes → Out (α × Bytes)) (φ : α → Bytes → Prop) : Prop :=
  ∀ p, Took p (f p) φ

section
variable {α β : Type} {p : Bytes} {x y : Out (α × Bytes)} {φ ψ : α → Bytes → Prop}
  {χ : β → Bytes → Prop}

theorem Took.mono (h : Took p x φ) (hφ : ∀ a c, φ a c → ψ a c) : Took p x ψ :=
  fun a r e => let ⟨c, e1, hc⟩ := h a r e; ⟨c, e1, hφ _ _ hc⟩

theorem Reads.mono {f : Bytes → Out (α × Bytes)} (h : Reads f φ) (hφ : ∀ a c, φ a c → ψ a c) :
    Reads f ψ :=
  fun p => (h p).mono hφ

theorem Took.pure {a : α} (h : φ a []) : Took p (.ok (a, p)) φ := by
  intro b r e; cases e; exact ⟨[], rfl, h⟩

theorem Took.err {e : Err} : Took p (.err e) φ :=
  fun _ _ h => nomatch h

/-- the continuation, started after `c`, is to establish `χ` of what the two take together -/
theorem Took.bind {k : α × Bytes → Out (β × Bytes)} (hx : Took p x φ)
    (hk : ∀ a c q, φ a c → Took q (k (a, q)) fun b d => χ b (c ++ d)) : Took p (x.bind k) χ := by
  intro b rest h
  obtain ⟨⟨a, q⟩, h1, h2⟩ := Out.bind_eq_ok_iff.mp h
  obtain ⟨c, rfl, hc⟩ := hx a q h1
  obtain ⟨d, rfl, hd⟩ := hk a c q hc b rest h2
  exact ⟨c ++ d, (List.append_assoc ..).symm, hd⟩

/-- a continuation that reads nothing: it checks, and returns or refuses -/
theorem Took.guard {k : α × Bytes → Out (β × Bytes)} (hx : Took p x φ)
    (hk : ∀ a c q, φ a c → Took q (k (a, q)) fun b d => d = [] ∧ χ b c) : Took p (x.bind k) χ :=
  hx.bind fun a c q hc => (hk a c q hc).mono fun _ _ h => h.1 ▸ (List.append_nil c).symm ▸ h.2

/-- a function of the result that hands the rest on as it is (`rfl` at every use) -/
theorem Took.map {g : α × Bytes → β × Bytes} (hx : Took p x φ)
    (hg : ∀ a c q, φ a c → (g (a, q)).2 = q ∧ χ (g (a, q)).1 c) : Took p (x.map g) χ := by
  intro b rest h
  obtain ⟨⟨a, q⟩, h1, h2⟩ := Out.map_eq_ok_iff.mp h
  obtain ⟨c, rfl, hc⟩ := hx a q h1
  obtain ⟨e1, e2⟩ := hg a c q hc
  rw [h2] at e1 e2
  exact ⟨c, by rw [← e1], e2⟩

theorem Took.ite {c : Prop} {_ : Decidable c} (h : c → Took p x φ) (h' : ¬ c → Took p y φ) :
    Took p (if c then x else y) φ := by
  split
  · exact h ‹_›
  · exact h' ‹_›

end

theorem readMapped_reads (n : Nat) : Reads (readMapped Rd.slice n) fun b c => c = b ∧ c.length = n :=
  fun _ b _ h => ⟨b, (readMapped_ok.mp h).2, rfl, (readMapped_ok.mp h).1⟩

theorem readU8_reads : Reads (readU8 Rd.slice) fun b c => c = [b] :=
  fun _ b _ h => ⟨[b], readU8_ok.mp h, rfl⟩

theorem readU32_reads : Reads (readU32 Rd.slice) fun n c => n < 2 ^ 32 ∧ c = u32le n :=
  fun _ n _ h => ⟨u32le n, (readU32_ok.mp h).2, (readU32_ok.mp h).1, rfl⟩

theorem deByteVec_reads :
    Reads (deByteVec Rd.slice) fun q c => q.length < 2 ^ 32 ∧ c = u32le q.length ++ q :=
  fun _ _ _ h => ⟨_, (deByteVec_ok.mp h).2, (deByteVec_ok.mp h).1, rfl⟩

variable {f : Bytes → Out (Val × Bytes)} {φ : Val → Bytes → Prop} {Ψ : List Val → Bytes → Prop}

/-- `n` decodes in a row: whatever `Ψ` is kept by consing a decoded element -/
theorem Reads.repeat (hf : Reads f φ) (h0 : Ψ [] [])
    (hs : ∀ v c vs d, φ v c → Ψ vs d → Ψ (v :: vs) (c ++ d)) :
    ∀ n, Reads (repeatDe f n) fun vs c => vs.length = n ∧ Ψ vs c
  | 0, _ => Took.pure ⟨rfl, h0⟩
  | n + 1, p => (hf p).bind fun v c q hv => (Reads.repeat hf h0 hs n q).guard fun vs d _ hvs =>
      Took.pure ⟨rfl, congrArg (· + 1) hvs.1, hs v c vs d hv hvs.2⟩

theorem Reads.vec (hr : ∀ n, Reads (repeatDe f n) fun vs c => vs.length = n ∧ Ψ vs c) :
    Reads (deVec Rd.slice false f) fun vs c =>
      ∃ d, vs.length < 2 ^ 32 ∧ c = u32le vs.length ++ d ∧ Ψ vs d := by
  intro p
  rw [deVec_false]
  exact (readU32_reads p).bind fun n c q hn => (hr n q).mono fun vs d h =>
    ⟨d, h.1 ▸ hn.1, h.1 ▸ hn.2 ▸ rfl, h.2⟩

end Borsh
