/-
  The schema-only reader `sdec` one level at a time.  A level is `walkNode`: what a definition makes
  of the input, given the readers of its children.  A sequence and an enum first read a head that
  does not depend on the children (`seqHead`: the element count, `tagHead`: the variant's
  declaration), then hand over.  Everything proved about `sdec` — fuel monotonicity here, the size
  bound in `MaxSound`, the witnesses of `MaxTight`, `Describes` — is proved about `walkNode` for
  arbitrary child readers and lifted by `sdec_step`.  `Parses g x` (the reader `g` consumes exactly `x`,
  whatever follows) comes with one rule for each shape of definition; `MaxTight` and `Describes` build
  the strings they speak of by these rules alone.
-/
import BorshModel.SchemaWalk
import BorshModel.Lemmas.Fuel
namespace Borsh

section
variable {w n lw lo hi k tw : Nat} {bs bs' : Bytes} {vs : List (Int × Name × Name)}

def takeLe (w : Nat) (bs : Bytes) : Option (Nat × Bytes) :=
  if w ≤ bs.length then some (ofLe (bs.take w), bs.drop w) else none

theorem takeLe_some (h : takeLe w bs = some (n, bs')) : bs.length = w + bs'.length := by
  obtain ⟨hle, h⟩ := Option.ite_none_right_eq_some.mp h
  cases h
  rw [List.length_drop, Nat.add_sub_cancel' hle]

theorem takeLe_leBytes (hn : n < 256 ^ w) (y : Bytes) : takeLe w (leBytes w n ++ y) = some (n, y) := by
  have hl := leBytes_length w n
  rw [takeLe, if_pos (by rw [List.length_append, hl]; exact Nat.le_add_right _ _), List.take_left' hl,
    List.drop_left' hl, ofLe_leBytes_of_lt hn]

def seqHead (lw lo hi : Nat) (bs : Bytes) : Option (Nat × Bytes) :=
  if lw = 0 then (if lo = hi then some (hi, bs) else none)
  else (takeLe lw bs).bind fun p => if lo ≤ p.1 ∧ p.1 ≤ hi then some p else none

theorem seqHead_some (h : seqHead lw lo hi bs = some (k, bs')) :
    lo ≤ k ∧ k ≤ hi ∧ bs.length = lw + bs'.length := by
  unfold seqHead at h
  by_cases h0 : lw = 0
  · rw [if_pos h0] at h
    obtain ⟨hlo, h⟩ := Option.ite_none_right_eq_some.mp h
    cases h
    exact ⟨Nat.le_of_eq hlo, Nat.le_refl _, by rw [h0, Nat.zero_add]⟩
  · rw [if_neg h0] at h
    obtain ⟨p, hp, h⟩ := Option.bind_eq_some_iff.mp h
    obtain ⟨hin, h⟩ := Option.ite_none_right_eq_some.mp h
    cases h
    exact ⟨hin.1, hin.2, takeLe_some hp⟩

def tagHead (tw : Nat) (vs : List (Int × Name × Name)) (bs : Bytes) : Option (Name × Bytes) :=
  (takeLe tw bs).bind fun p => (vs.find? fun v => v.1 == (p.1 : Int)).map fun v => (v.2.2, p.2)

theorem tagHead_some {e : Name} (h : tagHead tw vs bs = some (e, bs')) :
    e ∈ vs.map (·.2.2) ∧ bs.length = tw + bs'.length := by
  obtain ⟨p, hp, h⟩ := Option.bind_eq_some_iff.mp h
  obtain ⟨v, hv, h⟩ := Option.map_eq_some_iff.mp h
  cases h
  exact ⟨List.mem_map_of_mem (List.mem_of_find?_eq_some hv), takeLe_some hp⟩
end

def walkNode (r : Name → Bytes → Option Bytes) : Defn → Bytes → Option Bytes
  | .primitive n, bs => if n ≤ bs.length then some (bs.drop n) else none
  | .sequence lw lo hi e, bs => (seqHead lw lo hi bs).bind fun p => repeatWith (r e) p.1 p.2
  | .tuple es, bs => listWith r es bs
  | .enum tw vs, bs => (tagHead tw vs bs).bind fun p => r p.1 p.2
  | .struct fs, bs => listWith r fs.decls bs

theorem Option.bind_ite {α β : Type} (c : Prop) [Decidable c] (a b : Option α) (k : α → Option β) :
    (if c then a else b).bind k = if c then a.bind k else b.bind k := by
  split <;> rfl

theorem sdec_step (c : Container) (fuel : Nat) (d : Name) (bs : Bytes) :
    sdec c (fuel + 1) d bs =
      match c.get d with
      | none => none
      | some df => walkNode (sdec c fuel) df bs := by
  rw [sdec]
  cases c.get d with
  | none => rfl
  | some df =>
    cases df with
    | primitive n | tuple es | struct fs => rfl
    | sequence lw lo hi e =>
      simp only [walkNode, seqHead, takeLe, Option.bind_ite, Option.bind_some, Option.bind_none]
    | «enum» tw vs =>
      simp only [walkNode, tagHead, takeLe, Option.bind_ite, Option.bind_some, Option.bind_none]
      split
      · cases vs.find? _ <;> rfl
      · rfl

theorem sdec_of_get {c : Container} {fuel : Nat} {d : Name} {df : Defn} (hg : c.get d = some df)
    (bs : Bytes) : sdec c (fuel + 1) d bs = walkNode (sdec c fuel) df bs := by
  rw [sdec_step, hg]

theorem sdec_some {c : Container} {fuel : Nat} {d : Name} {bs r : Bytes}
    (h : sdec c (fuel + 1) d bs = some r) :
    ∃ df, c.get d = some df ∧ walkNode (sdec c fuel) df bs = some r := by
  rw [sdec_step] at h
  cases hg : c.get d with
  | none => rw [hg] at h; cases h
  | some df => rw [hg] at h; exact ⟨df, rfl, h⟩

theorem Option.bind_mono {α β : Type} {a a' : Option α} {k k' : α → Option β} {r : β}
    (ha : ∀ x, a = some x → a' = some x) (hk : ∀ x r, k x = some r → k' x = some r)
    (h : a.bind k = some r) : a'.bind k' = some r := by
  obtain ⟨x, hx, hr⟩ := Option.bind_eq_some_iff.mp h
  exact Option.bind_eq_some_iff.mpr ⟨x, ha x hx, hk x r hr⟩

theorem listWith_mono {f g : Name → Bytes → Option Bytes}
    (h : ∀ d bs r, f d bs = some r → g d bs = some r) :
    ∀ (ds : List Name) (bs r : Bytes), listWith f ds bs = some r → listWith g ds bs = some r
  | [], _, _, hr => hr
  | d :: ds, bs, _, hr => Option.bind_mono (h d bs) (listWith_mono h ds) hr

theorem repeatWith_mono {f g : Bytes → Option Bytes} (h : ∀ bs r, f bs = some r → g bs = some r) :
    ∀ (n : Nat) (bs r : Bytes), repeatWith f n bs = some r → repeatWith g n bs = some r
  | 0, _, _, hr => hr
  | n + 1, bs, _, hr => Option.bind_mono (h bs) (repeatWith_mono h n) hr

theorem walkNode_mono {f g : Name → Bytes → Option Bytes}
    (h : ∀ d bs r, f d bs = some r → g d bs = some r) (df : Defn) (bs r : Bytes)
    (hr : walkNode f df bs = some r) : walkNode g df bs = some r := by
  cases df with
  | primitive n => exact hr
  | tuple es | struct es => exact listWith_mono h _ bs r hr
  | sequence lw lo hi e => exact Option.bind_mono (fun _ h => h) (fun p => repeatWith_mono (h e) p.1 p.2) hr
  | «enum» tw vs => exact Option.bind_mono (fun _ h => h) (fun p => h p.1 p.2) hr

theorem sdec_succ (c : Container) : ∀ (fuel : Nat) (d : Name) (bs r : Bytes),
    sdec c fuel d bs = some r → sdec c (fuel + 1) d bs = some r
  | 0, _, _, _, h => nomatch h
  | fuel + 1, d, bs, r, h => by
    obtain ⟨df, hg, h⟩ := sdec_some h
    rw [sdec_of_get hg]
    exact walkNode_mono (sdec_succ c fuel) df bs r h

theorem sdec_mono (c : Container) {f f' : Nat} (hf : f ≤ f') (d : Name) (bs r : Bytes)
    (h : sdec c f d bs = some r) : sdec c f' d bs = some r :=
  mono_of_succ (fun f => sdec_succ c f d bs r) hf h


def Parses (g : Bytes → Option Bytes) (x : Bytes) : Prop := ∀ rest, g (x ++ rest) = some rest

section
variable {c : Container} {f f' : Nat} {d e : Name} {df : Defn} {x y : Bytes}
  {r : Name → Bytes → Option Bytes} {g g' : Bytes → Option Bytes}

theorem Parses.imp (h : ∀ bs r, g bs = some r → g' bs = some r) (hp : Parses g x) : Parses g' x :=
  fun rest => h _ _ (hp rest)

theorem Parses.mono (hf : f ≤ f') : Parses (sdec c f d) x → Parses (sdec c f' d) x :=
  .imp (sdec_mono c hf d)

theorem Parses.of_get (hg : c.get d = some df) (h : Parses (walkNode (sdec c f) df) x) :
    Parses (sdec c (f + 1) d) x := fun rest => (sdec_of_get hg _).trans (h rest)

theorem Parses.describes {bs : Bytes} (hd : c.decl = d) (h : Parses (sdec c f d) bs) : c.describes bs :=
  ⟨f, hd ▸ List.append_nil bs ▸ h []⟩

theorem Parses.nil : Parses (listWith r []) [] := fun _ => rfl

theorem Parses.zero : Parses (repeatWith g 0) [] := fun _ => rfl

theorem Parses.bind {k : Bytes → Option Bytes} (h : Parses g x) (hk : Parses k y) :
    Parses (fun bs => (g bs).bind k) (x ++ y) := fun rest => by
  rw [List.append_assoc]
  exact (congrArg (·.bind k) (h (y ++ rest))).trans (hk rest)

theorem Parses.cons {ds : List Name} (h : Parses (r d) x) (hs : Parses (listWith r ds) y) :
    Parses (listWith r (d :: ds)) (x ++ y) := h.bind hs

theorem Parses.succ {n : Nat} (h : Parses g x) (hs : Parses (repeatWith g n) y) :
    Parses (repeatWith g (n + 1)) (x ++ y) := h.bind hs

theorem Parses.one (h : Parses (r d) x) : Parses (listWith r [d]) x :=
  List.append_nil x ▸ h.cons .nil

theorem Parses.single (h : Parses (listWith r [d]) x) : Parses (r d) x := fun rest => by
  obtain ⟨_, h1, h2⟩ := Option.bind_eq_some_iff.mp (h rest)
  cases h2
  exact h1

theorem Parses.nil_inv (h : Parses (listWith r []) x) : x = [] :=
  (List.append_nil x).symm.trans (Option.some.inj (h []))

theorem Parses.replicate (h : Parses g x) : ∀ k, Parses (repeatWith g k) (List.replicate k x).flatten
  | 0 => .zero
  | k + 1 => h.succ (replicate h k)

theorem Parses.prim {n : Nat} (hx : x.length = n) : Parses (walkNode r (.primitive n)) x :=
  fun rest => by
    rw [walkNode, if_pos (by rw [List.length_append, hx]; exact Nat.le_add_right _ _), List.drop_left' hx]

theorem Parses.tuple {es : List Name} (h : Parses (listWith r es) x) : Parses (walkNode r (.tuple es)) x := h

theorem Parses.struct {fs : Fields} (h : Parses (listWith r fs.decls) x) :
    Parses (walkNode r (.struct fs)) x := h

theorem Parses.fixed {n : Nat} (h : Parses (repeatWith (r e) n) x) :
    Parses (walkNode r (.sequence 0 n n e)) x := fun rest => by
  rw [walkNode, seqHead, if_pos rfl, if_pos rfl]; exact h rest

theorem Parses.counted {lw lo hi n : Nat} (hlw : lw ≠ 0) (hn : lo ≤ n ∧ n ≤ hi) (hw : n < 256 ^ lw)
    (h : Parses (repeatWith (r e) n) x) :
    Parses (walkNode r (.sequence lw lo hi e)) (leBytes lw n ++ x) := fun rest => by
  rw [List.append_assoc, walkNode, seqHead, if_neg hlw, takeLe_leBytes hw, Option.bind_some, if_pos hn]
  exact h rest

/-- where keys are distinct, a test that only the key of `a` passes finds `a` -/
theorem find_of_nodup {α κ : Type} (key : α → κ) {p : α → Bool} {a : α} (ha : p a = true)
    (hp : ∀ b, p b = true → key b = key a) :
    ∀ l : List α, (l.map key).Nodup → a ∈ l → l.find? p = some a
  | y :: ys, hnd, hm => by
    rw [List.map_cons, List.nodup_cons] at hnd
    rcases List.mem_cons.mp hm with rfl | hm
    · rw [List.find?_cons, ha]
    · have hy : p y = false := Bool.eq_false_iff.mpr fun h =>
        hnd.1 (hp y h ▸ List.mem_map_of_mem hm)
      rw [List.find?_cons, hy]
      exact find_of_nodup key ha hp ys hnd.2 hm

theorem Parses.enum {tw n : Nat} {vs : List (Int × Name × Name)} {v : Int × Name × Name}
    (hw : n < 256 ^ tw) (hv : vs.find? (fun v => v.1 == (n : Int)) = some v) (h : Parses (r v.2.2) x) :
    Parses (walkNode r (.enum tw vs)) (leBytes tw n ++ x) := fun rest => by
  rw [List.append_assoc, walkNode, tagHead, takeLe_leBytes hw, Option.bind_some, hv]; exact h rest

theorem Parses.enum1 {vs : List (Int × Name × Name)} {v : Int × Name × Name} {tag : UInt8}
    (hv : vs.find? (fun v => v.1 == (tag.toNat : Int)) = some v) (h : Parses (r v.2.2) x) :
    Parses (walkNode r (.enum 1 vs)) (tag :: x) := by
  have := Parses.enum (tw := 1) (UInt8.toNat_lt tag) hv h
  rwa [show leBytes 1 tag.toNat = [tag] by simpa [ofLe] using leBytes_ofLe [tag]] at this
end

end Borsh
