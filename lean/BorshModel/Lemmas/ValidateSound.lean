/-
  Soundness of validation errors: whenever `validate` fails, the declaration named by the error
  is reachable from the root and really has the defect the error class describes (stated on that
  declaration's own definition).
-/
import BorshModel.Lemmas.Nodes
namespace Borsh

/-- the defect an error names, on the definition of the declaration it names.  The `zstSequence`
clause speaks of the implementation's `isZeroSize`; `localDefect_defect` (`Lemmas/ValidateIff.lean`)
takes it to `Defect`, which speaks of `ZeroSized`. -/
def localDefect (c : Container) : ValErr → Prop
  | .missing d => c.get d = none
  | .emptyLengthRange d =>
    ∃ lw lo hi e, c.get d = some (.sequence lw lo hi e) ∧ isFixedLen lw lo hi = false ∧ hi < lo
  | .tagNotPowerOfTwo d =>
    ∃ lw lo hi e, c.get d = some (.sequence lw lo hi e) ∧ isFixedLen lw lo hi = false ∧
      (lw = 3 ∨ lw = 5 ∨ lw = 6 ∨ lw = 7)
  | .tagTooNarrow d =>
    ∃ lw lo hi e, c.get d = some (.sequence lw lo hi e) ∧ isFixedLen lw lo hi = false ∧
      (lw = 1 ∨ lw = 2 ∨ lw = 4) ∧ 2 ^ (lw * 8) ≤ hi
  | .tagTooWide d =>
    (∃ lw lo hi e, c.get d = some (.sequence lw lo hi e) ∧ isFixedLen lw lo hi = false ∧ 8 < lw) ∨
    (∃ tw vs, c.get d = some (.enum tw vs) ∧ 8 < tw)
  | .zstSequence d =>
    ∃ lw lo hi e, c.get d = some (.sequence lw lo hi e) ∧ isFixedLen lw lo hi = false ∧
      isZeroSize c (c.defs.length + 1) e [] = .ok true

def ValErr.decl : ValErr → Name
  | .zstSequence d | .tagTooWide d | .tagTooNarrow d | .tagNotPowerOfTwo d | .missing d
  | .emptyLengthRange d => d

theorem allWith_error {f : Name → Res ZsErr Bool} {x : ZsErr} :
    ∀ es : List Name, allWith f es = .error x → ∃ e ∈ es, f e = .error x
  | [], h => nomatch h
  | e :: es, h => by
    rcases Res.bind_eq_error h with h1 | ⟨z, _, h2⟩
    · exact ⟨e, .head _, h1⟩
    · split at h2
      · obtain ⟨y, hy, hf⟩ := allWith_error es h2
        exact ⟨y, .tail _ hy, hf⟩
      · cases h2

theorem zsNode_error {r : Name → Res ZsErr Bool} {df : Defn} {x : ZsErr} (h : zsNode r df = .error x) :
    ∃ e ∈ df.children, r e = .error x := by
  cases df with
  | primitive s => cases h
  | sequence lw lo hi e =>
    -- an untagged sequence that may have elements: the only error is the element's
    simp only [zsNode] at h
    split at h
    · split at h
      · cases h
      · exact ⟨e, .head _, h⟩
    · cases h
  | «enum» tw vs =>
    simp only [zsNode] at h
    split at h
    · exact allWith_error _ h
    · cases h
  | tuple es | struct es => exact allWith_error _ h

theorem isZeroSize_missing_at (c : Container) : ∀ (fuel : Nat) (d : Name) (path : List Name) (m : Name),
    isZeroSize c fuel d path = .error (.missing m) → c.get m = none ∧ Reach c d m := by
  intro fuel
  induction fuel with
  | zero => intro d path m h; cases h
  | succ fuel ih =>
    intro d path m h
    rw [isZeroSize_step] at h
    refine guarded_ind (P := fun x => x = Res.error (ZsErr.missing m) → c.get m = none ∧ Reach c d m)
      (fun _ (h : Res.error ZsErr.recursive = _) => nomatch h) (fun _ hg h => ?_) (fun df _ hg h => ?_) h
    · cases h; exact ⟨hg, .refl _⟩
    · obtain ⟨e, he, hr⟩ := zsNode_error h
      exact (ih e _ m hr).imp id (.step df hg he)

theorem eachWith_error {f : Name → Res ValErr Unit} {x : ValErr} :
    ∀ es : List Name, eachWith f es = .error x → ∃ e ∈ es, f e = .error x
  | [], h => nomatch h
  | e :: es, h => by
    rcases Res.bind_eq_error h with h1 | ⟨_, _, h2⟩
    · exact ⟨e, .head _, h1⟩
    · obtain ⟨y, hy, hf⟩ := eachWith_error es h2
      exact ⟨y, .tail _ hy, hf⟩

/-- an error of one level is a defect of the declaration itself, or a definition the zero-size
analysis found missing below it, or the error of a child -/
theorem valNode_error {c : Container} {r : Name → Res ValErr Unit} {d : Name} {df : Defn} {x : ValErr}
    (hg : c.get d = some df)
    (h : valNode (fun e => isZeroSize c (c.defs.length + 1) e []) r d df = .error x) :
    (localDefect c x ∧ Reach c d x.decl) ∨ ∃ e ∈ df.children, r e = .error x := by
  cases df with
  | primitive s => cases h
  | tuple es | struct es => exact .inr (eachWith_error _ h)
  | «enum» tw vs =>
    simp only [valNode] at h
    split at h
    · cases h; exact .inl ⟨.inr ⟨tw, vs, hg, ‹_›⟩, .refl _⟩
    · exact .inr (eachWith_error _ h)
  | sequence lw lo hi e =>
    simp only [valNode] at h
    split at h
    · exact .inr ⟨e, .head _, h⟩
    · have hfix : isFixedLen lw lo hi = false := Bool.eq_false_iff.mpr ‹_›
      split at h
      · cases h; exact .inl ⟨⟨lw, lo, hi, e, hg, hfix, ‹_›⟩, .refl _⟩
      · rcases Res.bind_eq_error h with h1 | ⟨_, _, h2⟩
        · rcases checkLengthWidth_error h1 with ⟨rfl, hw⟩ | ⟨rfl, hw⟩ | ⟨rfl, hw⟩
          · exact .inl ⟨⟨lw, lo, hi, e, hg, hfix, hw⟩, .refl _⟩
          · exact .inl ⟨⟨lw, lo, hi, e, hg, hfix, hw⟩, .refl _⟩
          · exact .inl ⟨.inl ⟨lw, lo, hi, e, hg, hfix, hw⟩, .refl _⟩
        · split at h2
          · cases h2; exact .inl ⟨⟨lw, lo, hi, e, hg, hfix, ‹_›⟩, .refl _⟩
          · exact .inr ⟨e, .head _, h2⟩
          · exact .inr ⟨e, .head _, h2⟩
          · cases h2
            exact .inl ((isZeroSize_missing_at c _ e [] _ ‹_›).imp id (.step _ hg (.head _)))
          · cases h2

theorem validateImpl_error_at (c : Container) : ∀ (fuel : Nat) (d : Name) (path : List Name) (e : ValErr),
    validateImpl c fuel d path = .error e → localDefect c e ∧ Reach c d e.decl := by
  intro fuel
  induction fuel with
  | zero => intro d path e h; cases h
  | succ fuel ih =>
    intro d path e h
    rw [validateImpl_step] at h
    cases hg : c.get d with
    | none => rw [hg] at h; cases h; exact ⟨hg, .refl _⟩
    | some df =>
      simp only [hg] at h
      split at h
      · cases h
      · rcases valNode_error hg h with h1 | ⟨x, hx, hr⟩
        · exact h1
        · exact (ih x _ e hr).imp id (.step df hg hx)

theorem validateImpl_error_real (c : Container) : ∀ (fuel : Nat) (d : Name) (path : List Name) (e : ValErr),
    validateImpl c fuel d path = .error e → localDefect c e :=
  fun fuel d path e h => (validateImpl_error_at c fuel d path e h).1

end Borsh
