/-
  `validate` succeeds exactly on the well-formed containers (`WellFormed`: no reachable declaration
  has a defect), for every container.
-/
import BorshModel.Lemmas.ZeroSizeSpec
import BorshModel.Lemmas.ValidateSound
namespace Borsh

/-- reachability by a walk none of whose nodes is in `S` -/
inductive ReachAvoid (c : Container) (S : List Name) : Name → Name → Prop
  | refl {d : Name} : d ∉ S → ReachAvoid c S d d
  | step {d e x : Name} (df : Defn) : d ∉ S → c.get d = some df → e ∈ df.children →
      ReachAvoid c S e x → ReachAvoid c S d x

theorem ReachAvoid.head_not_mem {c : Container} {S : List Name} {d x : Name}
    (h : ReachAvoid c S d x) : d ∉ S := by
  cases h with
  | refl h => exact h
  | step _ h _ _ _ => exact h

theorem reach_avoid_nil {c : Container} {d x : Name} (h : Reach c d x) : ReachAvoid c [] d x := by
  induction h with
  | refl d => exact .refl List.not_mem_nil
  | step df hg he _ ih => exact .step df List.not_mem_nil hg he ih

/-- a walk from `a` to `x` avoiding `S` either avoids `d` as well, or leaves `d` for the last time
through one of its children and avoids `d` from there on, or ends in `d` -/
theorem ReachAvoid.split {c : Container} {S : List Name} {a x : Name} (h : ReachAvoid c S a x)
    (d : Name) :
    ReachAvoid c (d :: S) a x ∨
    (∃ df e, c.get d = some df ∧ e ∈ df.children ∧ ReachAvoid c (d :: S) e x) ∨ x = d := by
  induction h with
  | @refl a ha =>
    by_cases e : a = d
    · exact Or.inr (Or.inr e)
    · exact Or.inl (.refl (List.not_mem_cons_of_ne_of_not_mem e ha))
  | @step a e x df ha hg he _ ih =>
    rcases ih with h1 | h2 | h3
    · by_cases ead : a = d
      · subst ead
        exact Or.inr (Or.inl ⟨df, e, hg, he, h1⟩)
      · exact Or.inl (.step df (List.not_mem_cons_of_ne_of_not_mem ead ha) hg he h1)
    · exact Or.inr (Or.inl h2)
    · exact Or.inr (Or.inr h3)

theorem ReachAvoid.through_child {c : Container} {S : List Name} {d x : Name}
    (h : ReachAvoid c S d x) (hx : x ≠ d) :
    ∃ df e, c.get d = some df ∧ e ∈ df.children ∧ ReachAvoid c (d :: S) e x := by
  rcases h.split d with h1 | h2 | h3
  · exact absurd (List.mem_cons_self) h1.head_not_mem
  · exact h2
  · exact absurd h3 hx

theorem eachWith_ok_iff {f : Name → Res ValErr Unit} :
    ∀ es : List Name, eachWith f es = .ok () ↔ ∀ e ∈ es, f e = .ok ()
  | [] => by simp [eachWith]
  | x :: es => by
    rw [eachWith, List.forall_mem_cons, ← eachWith_ok_iff es]
    cases f x <;> simp [Res.bind]

theorem valNode_ok {c : Container} {r : Name → Res ValErr Unit} {d : Name} {df : Defn}
    (hg : c.get d = some df)
    (h : valNode (fun e => isZeroSize c (c.defs.length + 1) e []) r d df = .ok ()) :
    ¬ Defect c d ∧ ∀ e ∈ df.children, r e = .ok () := by
  unfold Defect
  rw [hg]
  cases df with
  | primitive s => exact ⟨id, fun _ he => nomatch he⟩
  | tuple es | struct es => exact ⟨id, (eachWith_ok_iff _).mp h⟩
  | «enum» tw vs =>
    simp only [valNode] at h
    split at h
    · cases h
    · exact ⟨‹_›, (eachWith_ok_iff _).mp h⟩
  | sequence lw lo hi e =>
    simp only [valNode] at h
    simp only [Defn.children, List.mem_singleton, forall_eq]
    split at h
    · exact ⟨fun hd => Bool.false_ne_true (hd.1.symm.trans ‹_›), h⟩
    · split at h
      · cases h
      · obtain ⟨u, hlw, h⟩ := Res.bind_eq_ok h
        -- the range is not empty and the width is legal, so a defect would be a zero-sized
        -- element, which `is_zero_size` would have answered `Ok(true)` on
        have hok := (checkLengthWidth_ok_iff d lw hi).mp hlw
        have sound : isZeroSize c (c.defs.length + 1) e [] ≠ .ok true → r e = .ok () →
            ¬ (isFixedLen lw lo hi = false ∧ (hi < lo ∨ lengthWidthOk lw hi = false ∨ ZeroSized c e)) ∧
              r e = .ok () :=
          fun hne hr => ⟨fun hd => hd.2.elim ‹¬ hi < lo› fun hd =>
            hd.elim (fun hf => Bool.false_ne_true (hf.symm.trans hok))
              fun z => hne ((isZeroSize_iff c e).mpr z), hr⟩
        split at h
        · cases h
        · exact sound (fun hz => nomatch (‹_ = Res.ok false›.symm.trans hz)) h
        · exact sound (fun hz => nomatch (‹_ = Res.error ZsErr.recursive›.symm.trans hz)) h
        · cases h
        · cases h

theorem validateImpl_ok_sound (c : Container) : ∀ (fuel : Nat) (d : Name) (path : List Name),
    validateImpl c fuel d path = .ok () → ∀ x, ReachAvoid c path d x → ¬ Defect c x := by
  intro fuel
  induction fuel with
  | zero => intro d path h; cases h
  | succ fuel ih =>
    intro d path h x hr
    rw [validateImpl_step] at h
    cases hg : c.get d with
    | none => simp only [hg] at h; cases h
    | some df =>
      have hd : ¬ path.contains d = true := fun hc => hr.head_not_mem (List.contains_iff_mem.mp hc)
      simp only [hg, hd] at h
      obtain ⟨hnd, hch⟩ := valNode_ok hg h
      by_cases hx : x = d
      · exact hx ▸ hnd
      · -- another declaration: reached through a child, validated under the longer stack
        obtain ⟨df', e, hg', he, hr'⟩ := hr.through_child hx
        cases hg.symm.trans hg'
        exact ih e (d :: path) (hch e he) x hr'

theorem Reach.trans_step {c : Container} {d e x : Name} (df : Defn) (hg : c.get d = some df)
    (he : e ∈ df.children) (h : Reach c e x) : Reach c d x := .step df hg he h

theorem localDefect_defect {c : Container} {e : ValErr} (h : localDefect c e) : Defect c e.decl := by
  unfold Defect
  cases e with
  | missing d => simp only [ValErr.decl, show c.get d = none from h]
  | emptyLengthRange d =>
    obtain ⟨lw, lo, hi, e, hg, hfix, hd⟩ := h
    simp only [ValErr.decl, hg]; exact ⟨hfix, .inl hd⟩
  | tagNotPowerOfTwo d =>
    obtain ⟨lw, lo, hi, e, hg, hfix, hd⟩ := h
    simp only [ValErr.decl, hg]; exact ⟨hfix, .inr (.inl (lengthWidthOk_false (.inl hd)))⟩
  | tagTooNarrow d =>
    obtain ⟨lw, lo, hi, e, hg, hfix, hd⟩ := h
    simp only [ValErr.decl, hg]; exact ⟨hfix, .inr (.inl (lengthWidthOk_false (.inr (.inl hd))))⟩
  | tagTooWide d =>
    rcases h with ⟨lw, lo, hi, e, hg, hfix, hd⟩ | ⟨tw, vs, hg, hd⟩
    · simp only [ValErr.decl, hg]; exact ⟨hfix, .inr (.inl (lengthWidthOk_false (.inr (.inr hd))))⟩
    · simp only [ValErr.decl, hg]; exact hd
  | zstSequence d =>
    obtain ⟨lw, lo, hi, e, hg, hfix, hd⟩ := h
    simp only [ValErr.decl, hg]; exact ⟨hfix, .inr (.inr ((isZeroSize_iff c e).mp hd))⟩

theorem validate_ok_iff (c : Container) : c.validate = .ok () ↔ WellFormed c := by
  constructor
  · intro h d hr
    exact validateImpl_ok_sound c _ c.decl [] h d (reach_avoid_nil hr)
  · intro hw
    refine (Res.ok_or_error (validateImpl_noPanic c _ c.decl [] (pathOk_nil c) (Nat.le_add_left _ _))).elim
      (fun ⟨(), hv⟩ => hv) fun ⟨e, hv⟩ => ?_
    obtain ⟨hl, hr⟩ := validateImpl_error_at c _ c.decl [] e hv
    exact absurd (localDefect_defect hl) (hw _ hr)

end Borsh
