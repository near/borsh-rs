/-
  C12 for *any* writer, not only the scripted ones: a writer is a state with a `write_all` whose
  only obligation is the `io::Write` contract — on success the whole buffer was delivered, on
  failure some prefix of it was.  Then running a serializer trace against it delivers a prefix of
  the encoding, and the whole of it when the run returns `Ok`.
-/
import BorshModel.Basic
namespace Borsh

structure AnyWriter (ω : Type) where
  writeAll : Bytes → ω → ω × Out Unit
  /-- everything delivered so far (ghost state: what reached the sink) -/
  delivered : ω → Bytes
  ok_all : ∀ b w w', writeAll b w = (w', .ok ()) → delivered w' = delivered w ++ b
  fail_prefix : ∀ b w w' r, writeAll b w = (w', r) → r ≠ .ok () →
    ∃ k, k ≤ b.length ∧ delivered w' = delivered w ++ b.take k

def runTraceAny {ω : Type} (W : AnyWriter ω) : List Bytes → Out Unit → ω → ω × Out Unit
  | [], status, w => (w, status)
  | c :: cs, status, w =>
    match W.writeAll c w with
    | (w', .ok ()) => runTraceAny W cs status w'
    | (w', r) => (w', r)

theorem runTraceAny_spec {ω : Type} (W : AnyWriter ω) :
    ∀ (cs : List Bytes) (status : Out Unit) (w : ω),
      (∃ k, k ≤ cs.flatten.length ∧
        W.delivered (runTraceAny W cs status w).1 = W.delivered w ++ cs.flatten.take k) ∧
      ((runTraceAny W cs status w).2 = .ok () →
        W.delivered (runTraceAny W cs status w).1 = W.delivered w ++ cs.flatten ∧ status = .ok ()) := by
  intro cs
  induction cs with
  | nil =>
    intro status w
    exact ⟨⟨0, Nat.zero_le _, (List.append_nil _).symm⟩, fun h => ⟨(List.append_nil _).symm, h⟩⟩
  | cons c cs ih =>
    intro status w
    have hl : (c :: cs).flatten.length = c.length + cs.flatten.length := by
      rw [List.flatten_cons, List.length_append]
    cases hw : W.writeAll c w with
    | mk w' r =>
      by_cases hr : r = .ok ()
      · subst hr
        have hrun : runTraceAny W (c :: cs) status w = runTraceAny W cs status w' := by
          simp only [runTraceAny, hw]
        rw [hrun]
        have hd := W.ok_all c w w' hw
        obtain ⟨⟨k, hk, hp⟩, hfull⟩ := ih status w'
        refine ⟨⟨c.length + k, hl ▸ Nat.add_le_add_left hk _, ?_⟩, ?_⟩
        · rw [hp, hd, List.flatten_cons, List.append_assoc, List.take_length_add_append]
        · intro h
          obtain ⟨h1, h2⟩ := hfull h
          exact ⟨by rw [h1, hd, List.flatten_cons, List.append_assoc], h2⟩
      · have hrun : runTraceAny W (c :: cs) status w = (w', r) := by
          cases r with
          | ok u => cases u; exact absurd rfl hr
          | err e => simp only [runTraceAny, hw]
          | panic p => simp only [runTraceAny, hw]
        rw [hrun]
        obtain ⟨k, hk, hp⟩ := W.fail_prefix c w w' r hw hr
        refine ⟨⟨k, hl ▸ Nat.le_trans hk (Nat.le_add_right _ _), ?_⟩, fun h => absurd h hr⟩
        rw [hp, List.flatten_cons, List.take_append_of_le_length hk]

end Borsh
