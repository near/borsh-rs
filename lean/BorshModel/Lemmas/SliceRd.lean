/- Each primitive read of the decoder on a slice, as an iff; the `u8` fast paths read what the
   element loop reads. -/
import BorshModel.Lemmas.Slice
import BorshModel.Lemmas.Induct
namespace Borsh

theorem readMapped_slice (n : Nat) (bs : Bytes) :
    readMapped Rd.slice n bs =
      if n ≤ bs.length then .ok (bs.take n, bs.drop n) else .err eUnexpectedLength := by
  unfold readMapped
  rw [slice_readExact]
  split <;> rfl

theorem readMapped_eq_readBulk (n : Nat) : readMapped Rd.slice n = Rd.slice.readBulk n :=
  funext fun bs => by rw [readMapped_slice, slice_readBulk]

theorem readU8_slice (p : Bytes) :
    readU8 Rd.slice p = match p with
      | [] => .err eUnexpectedLength
      | b :: r => .ok (b, r) := by
  unfold readU8
  rw [readMapped_slice]
  cases p <;> rfl

theorem split_iff {n : Nat} {bs r rest : Bytes} :
    (n ≤ bs.length ∧ bs.take n = r ∧ bs.drop n = rest) ↔ r.length = n ∧ bs = r ++ rest := by
  constructor
  · rintro ⟨h, rfl, rfl⟩
    exact ⟨List.length_take_of_le h, (List.take_append_drop n bs).symm⟩
  · rintro ⟨rfl, rfl⟩
    simp

theorem readMapped_ok {n : Nat} {bs r rest : Bytes} :
    readMapped Rd.slice n bs = .ok (r, rest) ↔ r.length = n ∧ bs = r ++ rest := by
  rw [readMapped_slice, ← split_iff]
  split <;> simp [*]

theorem readBulk_ok {n : Nat} {bs r rest : Bytes} :
    Rd.slice.readBulk n bs = .ok (r, rest) ↔ r.length = n ∧ bs = r ++ rest :=
  readMapped_eq_readBulk n ▸ readMapped_ok

theorem readU8_ok {bs rest : Bytes} {b : UInt8} :
    readU8 Rd.slice bs = .ok (b, rest) ↔ bs = b :: rest := by
  rw [readU8_slice]
  cases bs with
  | nil => exact ⟨nofun, nofun⟩
  | cons c r => exact ⟨fun h => by cases h; rfl, fun h => by cases h; rfl⟩

theorem readU32_ok {bs rest : Bytes} {n : Nat} :
    readU32 Rd.slice bs = .ok (n, rest) ↔ n < 2 ^ 32 ∧ bs = u32le n ++ rest := by
  unfold readU32 u32le
  simp only [Out.map_eq_ok_iff, Prod.exists, readMapped_ok, Prod.mk.injEq]
  constructor
  · rintro ⟨r, s, ⟨hl, rfl⟩, rfl, rfl⟩
    have := ofLe_lt r
    rw [hl] at this
    exact ⟨this, by rw [← hl, leBytes_ofLe]⟩
  · rintro ⟨hn, rfl⟩
    exact ⟨_, rest, ⟨leBytes_length 4 n, rfl⟩, ofLe_leBytes_of_lt hn, rfl⟩

/-- a shortcut for length zero that answers what the general path would answer -/
theorem zero_shortcut {α σ : Type} {F : Nat → σ → Out (List α × σ)} (h0 : ∀ s, F 0 s = .ok ([], s))
    (n : Nat) (s : σ) : (if n == 0 then .ok ([], s) else F n s) = F n s := by
  by_cases h : n = 0
  · rw [if_pos (beq_iff_eq.mpr h), h, h0]
  · rw [if_neg (mt beq_iff_eq.mp h)]

theorem deByteVec_slice (bs : Bytes) :
    deByteVec Rd.slice bs = (readU32 Rd.slice bs).bind fun r => Rd.slice.readBulk r.1 r.2 := by
  unfold deByteVec
  congr 1; funext r
  exact zero_shortcut (fun s => by rw [slice_readBulk]; rfl) r.1 r.2

theorem deByteVec_ok {bs q rest : Bytes} :
    deByteVec Rd.slice bs = .ok (q, rest) ↔ q.length < 2 ^ 32 ∧ bs = u32le q.length ++ q ++ rest := by
  simp only [deByteVec_slice, Out.bind_eq_ok_iff, Prod.exists, readU32_ok, readBulk_ok]
  constructor
  · rintro ⟨n, s, ⟨hn, rfl⟩, rfl, rfl⟩
    exact ⟨hn, (List.append_assoc ..).symm⟩
  · rintro ⟨hn, rfl⟩
    exact ⟨_, _, ⟨hn, List.append_assoc ..⟩, rfl, rfl⟩

theorem deVec_false {σ : Type} (rd : Rd σ) (f : σ → Out (Val × σ)) (s : σ) :
    deVec rd false f s = (readU32 rd s).bind fun r => repeatDe f r.1 r.2 := by
  unfold deVec
  congr 1; funext r
  exact zero_shortcut (F := repeatDe f) (fun _ => rfl) r.1 r.2

theorem de_u8_slice (st : Bool) (bs : Bytes) :
    de Rd.slice st (.int .u8) bs =
      match bs with
      | b :: r => .ok (.int b.toNat, r)
      | [] => .err eUnexpectedLength := by
  show (readMapped Rd.slice 1 bs).map _ = _
  rw [readMapped_slice]
  cases bs <;> rfl

theorem repeatDe_u8 (st : Bool) (n : Nat) (bs : Bytes) :
    repeatDe (de Rd.slice st (.int .u8)) n bs =
      if n ≤ bs.length then .ok (bytesVal (bs.take n), bs.drop n) else .err eUnexpectedLength := by
  induction n generalizing bs with
  | zero => simp [repeatDe, bytesVal]
  | succ n ih =>
    rw [repeatDe, de_u8_slice]
    cases bs with
    | nil => simp
    | cons b r =>
      simp only [Out.bind_ok, ih, List.length_cons, Nat.add_le_add_iff_right]
      split <;> simp [bytesVal]

theorem readBulk_eq_loop (st : Bool) (n : Nat) (bs : Bytes) :
    ((Rd.slice.readBulk n bs).map fun q => (bytesVal q.1, q.2)) =
      repeatDe (de Rd.slice st (.int .u8)) n bs := by
  rw [slice_readBulk, repeatDe_u8]
  split <;> rfl

theorem deVec_slice (st : Bool) (t : Ty) (bs : Bytes) :
    deVec Rd.slice t.isU8 (de Rd.slice st t) bs = deVec Rd.slice false (de Rd.slice st t) bs := by
  cases hu : t.isU8 with
  | false => rfl
  | true =>
    cases isU8_eq hu
    rw [deVec_false]
    unfold deVec
    congr 1; funext r
    rw [if_pos rfl, readBulk_eq_loop st]
    exact zero_shortcut (fun _ => rfl) r.1 r.2

theorem de_array_slice (st : Bool) (n : Nat) (t : Ty) (bs : Bytes) :
    de Rd.slice st (.array n t) bs =
      (repeatDe (de Rd.slice st t) n bs).map fun r => (.list r.1, r.2) := by
  show (if t.isU8 = true then (readMapped Rd.slice n bs).map _ else _) = _
  cases hu : t.isU8 with
  | false => rfl
  | true =>
    cases isU8_eq hu
    rw [if_pos rfl, readMapped_slice, repeatDe_u8]
    split <;> rfl

/-- the left side is what the element loop of `BytesMut` runs -/
theorem readU8_val_slice (st : Bool) :
    (fun s => (readU8 Rd.slice s).map fun b => (Val.int b.1.toNat, b.2)) = de Rd.slice st (.int .u8) := by
  funext s
  rw [de_u8_slice, readU8_slice]
  cases s <;> rfl

/-- every length-prefixed sequence kind is read, on a slice, by the one element loop -/
theorem de_seq_slice (st : Bool) (k : SeqK) (t : Ty) (bs : Bytes)
    (hb : k.isBytes = true → t.isU8 = true) :
    de Rd.slice st (.seq k t) bs =
      if memZero t then .err eZst
      else (deVec Rd.slice false (de Rd.slice st t) bs).map fun r =>
        match k with
        | .vecDeque => (.deque r.1 [], r.2)
        | .indexSet => (.list (collectIndexSet r.1), r.2)
        | _ => (.list r.1, r.2) := by
  by_cases hk : k = .bytesMut
  · subst hk
    cases isU8_eq (hb rfl)
    rw [deVec_false, ← readU8_val_slice st, Out.map_bind]
    rfl
  · rw [de, deVec_slice]
    · cases k <;> rfl
    · exact hk

end Borsh
