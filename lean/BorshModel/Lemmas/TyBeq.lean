/-
  `Ty.beq`, by which `coherentB` compares guarded items and the two fields of a `Range`, answers
  `true` only on equal types (the converse is not needed).
-/
import BorshModel.Lemmas.Induct
namespace Borsh

theorem Ty.beq_eq : ∀ a b : Ty, Ty.beq a b = true → a = b := by
  apply Ty.induct_step (P := fun a => ∀ b, Ty.beq a b = true → a = b)
    (PF := fun fs => ∀ fs', Ty.beqFields fs fs' = true → fs = fs')
    (PV := fun vs => ∀ vs', Ty.beqVariants vs vs' = true → vs = vs')
  case step =>
    -- `Ty.beq` has a clause for each constructor against itself, and answers `false` otherwise
    intro a ih b
    fun_cases Ty.beq a b
    case case4 | case6 => exact fun _ => rfl  -- `bool`, `asciiChar`
    case case1 | case2 | case3 | case5 | case7 =>  -- a kind
      exact fun h => congrArg _ (beq_iff_eq.mp h)
    case case8 | case9 | case11 | case12 | case13 | case14 =>  -- a kind (or a length) and one part
      exact fun h => by rw [beq_iff_eq.mp (both h).1, ih _ (both h).2]
    case case10 =>  -- `map`
      exact fun h => by
        rw [beq_iff_eq.mp (both (both h).1).1, ih.1 _ (both (both h).1).2, ih.2 _ (both h).2]
    case case15 => exact fun h => congrArg _ (ih _ h)  -- `custom`
    case case16 => exact nofun
  case h_fnil => intro fs' h; cases fs' with | nil => rfl | cons _ _ => cases h
  case h_fcons =>
    intro n s t fs iht ihf fs' h
    cases fs' with
    | nil => cases h
    | cons f fs' =>
      obtain ⟨n', s', t'⟩ := f
      obtain ⟨⟨⟨hn, hs⟩, ht⟩, hfs⟩ := (both h).imp (fun h => (both h).imp both id) id
      rw [beq_iff_eq.mp hn, beq_iff_eq.mp hs, iht t' ht, ihf fs' hfs]
  case h_vnil => intro vs' h; cases vs' with | nil => rfl | cons _ _ => cases h
  case h_vcons =>
    intro n g fs vs ihf ihv vs' h
    cases vs' with
    | nil => cases h
    | cons v vs' =>
      obtain ⟨n', g', fs'⟩ := v
      obtain ⟨⟨⟨hn, hg⟩, hfs⟩, hvs⟩ := (both h).imp (fun h => (both h).imp both id) id
      rw [beq_iff_eq.mp hn, beq_iff_eq.mp hg, ihf fs' hfs, ihv vs' hvs]

/-- field lists and variant lists: as members of a product and of a sum -/
theorem Ty.beqFields_eq : ∀ a b : List (Option Name × Bool × Ty), Ty.beqFields a b = true → a = b :=
  fun a b h => (Ty.prod.inj (Ty.beq_eq (.prod .unit a) (.prod .unit b) h)).2

theorem Ty.beqVariants_eq : ∀ a b : List (Name × Nat × List (Option Name × Bool × Ty)),
    Ty.beqVariants a b = true → a = b :=
  fun a b h => (Ty.sum.inj (Ty.beq_eq (.sum .option a) (.sum .option b) h)).2

end Borsh
