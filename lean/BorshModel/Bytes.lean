/-
  Little-endian fixed-width encodings (model of `to_le_bytes` / `from_le_bytes`).
-/
import BorshModel.Basic
namespace Borsh

/-- the `w` low-order base-256 digits of `n`, least significant first -/
def leBytes : Nat → Nat → Bytes
  | 0, _ => []
  | w+1, n => UInt8.ofNat (n % 256) :: leBytes w (n / 256)

/-- value of a little-endian digit string -/
def ofLe : Bytes → Nat
  | [] => 0
  | b :: bs => b.toNat + 256 * ofLe bs

@[simp] theorem leBytes_length (w n : Nat) : (leBytes w n).length = w := by
  induction w generalizing n with
  | zero => rfl
  | succ w ih => simp [leBytes, ih]

theorem ofLe_lt (bs : Bytes) : ofLe bs < 256 ^ bs.length := by
  induction bs with
  | nil => simp [ofLe]
  | cons b bs ih =>
    have hb : b.toNat < 256 := UInt8.toNat_lt b
    rw [ofLe, List.length_cons, Nat.pow_succ]
    omega

theorem ofLe_leBytes (w n : Nat) : ofLe (leBytes w n) = n % 256 ^ w := by
  induction w generalizing n with
  | zero => simp [leBytes, ofLe, Nat.mod_one]
  | succ w ih =>
    simp only [leBytes, ofLe, ih, UInt8.toNat_ofNat']
    have h256 : (2:Nat)^8 = 256 := by decide
    rw [h256, Nat.mod_mod, Nat.pow_succ, Nat.mul_comm (256^w) 256, Nat.mod_mul]

theorem ofLe_leBytes_of_lt {w n : Nat} (h : n < 256 ^ w) : ofLe (leBytes w n) = n := by
  rw [ofLe_leBytes, Nat.mod_eq_of_lt h]

theorem leBytes_ofLe (bs : Bytes) : leBytes bs.length (ofLe bs) = bs := by
  induction bs with
  | nil => rfl
  | cons b bs ih =>
    have hb : b.toNat < 256 := UInt8.toNat_lt b
    rw [List.length_cons, ofLe, leBytes, Nat.add_mul_mod_self_left, Nat.mod_eq_of_lt hb,
      Nat.add_mul_div_left _ _ (by decide), Nat.div_eq_of_lt hb, Nat.zero_add, ih, UInt8.ofNat_toNat]

/-- `u32::to_le_bytes` of a length -/
def u32le (n : Nat) : Bytes := leBytes 4 n

end Borsh
